/-
Bridge, second part: translated functions that compute in `f64` (translated to exact rationals) against the
model's integer representations (Mach number as the raw field, temperatures in quarter degrees).
-/
import SqModel.Proofs.Bridge
import SqModel.Proofs.Accept
import Mathlib.Data.Rat.Floor

namespace Sq.Bridge
open Sq Spec

theorem ground_movement_eq (m : Msg) : T.ground_movement m = groundMovement m := by
  unfold T.ground_movement groundMovement
  cases rangeValue m 38 44 with
  | none => rfl
  | some v =>
    -- the code compares the value as `f64`, the model as a natural number
    have c : ((v : Rat) = 124) = (v = 124) := by norm_cast
    simp only [Nat.cast_eq_one, c, Nat.ofNat_le_cast, Nat.cast_le_ofNat]

/-- the Mach number the code holds (`raw * 0.004`) from the model's raw field -/
def machOfRaw (r : Nat) : Rat := (r : Rat) * (1 / 250 : Rat)
def degOfQuarter (q : Int) : Rat := (q : Rat) * (1 / 4 : Rat)

theorem mach_number_6_0_eq (m : Msg) : T.mach_number_6_0 m = (machRaw60 m).map machOfRaw := by
  unfold T.mach_number_6_0 machRaw60
  rw [Option.map_map]
  rfl

theorem temperature_4_4_eq (m : Msg) (L : Long m) : T.temperature_4_4 m = (temperature44 m).map degOfQuarter := by
  unfold T.temperature_4_4 temperature44 T.temp_4_4
  rw [far L 56 57 66 (by decide)]
  -- the code negates as `-t - 1 + 1`; the model chooses the sign before it scales
  simp only [Option.map_some, u32ToI32_of_lt (field_lt m 57 66), degOfQuarter, Int.sub_add_cancel,
    apply_ite (fun t : Int => (t : Rat) * (1 / 4 : Rat))]

theorem temperature_4_5_eq (m : Msg) : T.temperature_4_5 m = (temperature45 m).map degOfQuarter := by
  unfold T.temperature_4_5 temperature45 T.temp_4_5
  rw [Option.map_map]
  refine Option.map_congr fun ⟨a, b, c⟩ _ => ?_
  simp only [Function.comp, degOfQuarter, apply_ite (fun t : Int => (t : Rat) * (1 / 4 : Rat)), Int.cast_neg,
    Int.cast_natCast, neg_mul]

theorem deg_le (k q : Int) : degOfQuarter q ≤ k ↔ q ≤ 4 * k := by
  unfold degOfQuarter
  rw [← div_eq_mul_one_div, div_le_iff₀ (by norm_num), mul_comm]
  norm_cast

theorem le_deg (k q : Int) : (k : Rat) ≤ degOfQuarter q ↔ 4 * k ≤ q := by
  unfold degOfQuarter
  rw [← div_eq_mul_one_div, le_div_iff₀ (by norm_num), mul_comm]
  norm_cast

theorem is_bds_4_5_eq (m : Msg) : T.is_bds_4_5 m = (isBds45 m).map degOfQuarter := by
  unfold T.is_bds_4_5 isBds45
  simp only [goodflags_eq, temperature_4_5_eq, Bool.and_eq_true, Bool.not_eq_true', Bool.not_eq_true, and_assoc,
    filter_map_comm degOfQuarter (fun t => decide (t ≤ 45)) (fun t => decide (t ≤ 180))
      (fun q => decide_eq_decide.mpr (deg_le 45 q)),
    apply_ite (Option.map degOfQuarter), Option.map_none]

def bds60ToT (b : Bds60) : T.HeadingAndSpeed :=
  { magnetic_heading := b.heading, indicated_airspeed := b.ias, mach_number := b.mach.map machOfRaw,
    barometric_altitude_rate := b.baroRate, internal_vertical_velocity := b.ivv }

def meteoToT (me : Meteo) : T.Meteo :=
  { temp := me.temp.map degOfQuarter, wind := me.wind, humidity := me.humidity, turbulence := me.turbulence,
    pressure := me.pressure }

theorem mach_le_one (r : Nat) : ((0 : Rat) ≤ machOfRaw r ∧ machOfRaw r ≤ 1) ↔ r ≤ 250 := by
  unfold machOfRaw
  rw [← div_eq_mul_one_div, div_le_iff₀ (by norm_num), one_mul, and_iff_right (by positivity)]
  norm_cast

theorem is_bds_6_0_eq (m : Msg) (L : Long m) : T.is_bds_6_0 m = (isBds60 m).map bds60ToT := by
  unfold T.is_bds_6_0 isBds60 T.HeadingAndSpeed.from_data
  simp only [goodflags_eq, magnetic_heading_6_0_eq, indicated_airspeed_6_0_eq, mach_number_6_0_eq,
    barometric_altitude_rate_6_0_eq m L, internal_vertical_velocity_6_0_eq m L, Option.any_map, Nat.zero_le, true_and,
    mach_le_one, apply_ite (Option.map bds60ToT), Option.map_some, Option.map_none, Bool.and_eq_true, and_assoc, bds60ToT]
  -- the same flags and the same record; the range tests, now on the same values, are `Option.any` in the code and a
  -- `match` in the model, and a rate may be absent: `.any .. ∨ .isNone` in the code, `| none => true` in the model
  refine ite_congr rfl (fun _ => ite_congr (propext ?_) (fun _ => rfl) fun _ => rfl) fun _ => rfl
  refine and_congr ?_ (and_congr ?_ (and_congr ?_ (and_congr ?_ ?_)))
  · cases magneticHeading60 m <;> exact Iff.rfl
  · cases indicatedAirspeed60 m <;> exact Iff.rfl
  · cases machRaw60 m <;> exact Iff.rfl
  · cases barometricAltitudeRate60 m
    exacts [iff_of_true (.inr rfl) rfl, or_iff_left Bool.false_ne_true]
  · cases internalVerticalVelocity60 m
    exacts [iff_of_true (.inr rfl) rfl, or_iff_left Bool.false_ne_true]

theorem is_bds_4_4_eq (m : Msg) (L : Long m) : T.is_bds_4_4 m = (isBds44 m).map meteoToT := by
  unfold T.is_bds_4_4 isBds44 T.Meteo.from_data
  cases rangeValue m 33 36 with
  | none => rfl
  | some fom =>
    simp only [goodflags_eq, temperature_4_4_eq m L, wind_4_4_eq, humidity_4_4_eq, turbulence_4_4_eq, pressure_4_4_eq,
      filter_map_comm degOfQuarter (fun x => decide ((-80 : Rat) ≤ x ∧ x ≤ 60)) (fun x => decide (-320 ≤ x ∧ x ≤ 240))
        (fun q => decide_eq_decide.mpr (and_congr (le_deg (-80) q) (deg_le 60 q))),
      Nat.zero_le, true_and, Bool.and_eq_true, decide_eq_true_eq, and_assoc, Option.isSome_map,
      apply_ite (Option.map meteoToT), Option.map_some, Option.map_none, meteoToT]

theorem metric_eq (x : Nat) (hx : x < 2048) : ratToU32 ((x : Rat) * (31 / 100 : Rat)) = metricAlt x := by
  unfold ratToU32 metricAlt
  have e : (x : Rat) * (31 / 100 : Rat) = ((x * 31 : Nat) : Rat) / ((100 : Nat) : Rat) := by
    rw [Nat.cast_mul, mul_div_assoc, Nat.cast_ofNat, Nat.cast_ofNat]
  have f : (((x * 31 : Nat) : Rat) / ((100 : Nat) : Rat)).floor = ((x * 31 / 100 : Nat) : Int) :=
    Rat.floor_natCast_div_natCast _ _
  rw [e, if_neg (not_lt.mpr (by positivity)), f, Int.toNat_natCast]
  exact Nat.min_eq_left (Nat.le_trans (Nat.div_le_self _ _)
    (Nat.le_trans (Nat.mul_le_mul_right 31 (Nat.le_of_lt hx)) (by decide)))

theorem altitude_value_eq (m : Msg) (code : Option Nat) : T.altitude_value m code = altitudeValue m code := by
  unfold T.altitude_value altitudeValue
  cases code with
  | none => rfl
  | some c =>
    -- the same tests of the M and Q bits; the metric arm casts a value of eleven bits
    exact ite_congr rfl (fun _ => ite_congr rfl (fun _ => rfl) fun _ => rfl) fun _ => congrArg some (metric_eq _
      (Nat.or_lt_two_pow (n := 11) (Nat.lt_of_le_of_lt Nat.and_le_right (by decide))
        (Nat.lt_of_le_of_lt Nat.and_le_right (by decide))))

theorem altitude_eq (m : Msg) (df : Nat) : T.altitude m df = altitude m df := by
  unfold T.altitude altitude
  simp only [altitude_value_eq, me_code_eq, maCodeOpt]

end Sq.Bridge
