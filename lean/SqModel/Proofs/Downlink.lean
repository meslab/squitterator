/-
What `DF::from_message` builds, and how the two type-code dispatchers of the row update read it.
The three places that branch on the type code of an extended squitter (`Ext.fromMessage`,
`Plane.amendExtTc`, `Plane.updateExtTc`) are put in one form, a `match` on `tcClass`: a hypothesis on
the type code then selects the arm by one rewrite (`tcClass_airborne` ..), and two of them are
taken apart in step by `cases`.
-/
import SqModel.Model.Plane
import SqModel.Proofs.Bits

namespace Sq

theorem fromMessage_df17 (env : Env) (m : Msg) (h : getDownlinkFormat m = some 17) :
    DFRec.fromMessage env m = some (.ext (Ext.fromMessage env m)) := by
  rw [DFRec.fromMessage, h]
  rfl

theorem fromMessage_srt (env : Env) (m : Msg) (df : Nat) (h : getDownlinkFormat m = some df) (hle : df ≤ 16) :
    DFRec.fromMessage env m = some (.srt (Srt.fromMessage m)) := by
  rw [DFRec.fromMessage, h]
  exact if_pos hle

theorem fromMessage_mds (env : Env) (m : Msg) (df : Nat) (h : getDownlinkFormat m = some df)
    (h2 : df = 20 ∨ df = 21) : DFRec.fromMessage env m = some (.mds (getIcao m df)) := by
  rw [DFRec.fromMessage, h]
  exact (if_neg (by omega)).trans ((if_neg (by omega)).trans (if_pos h2))

theorem fromMessage_unknown (env : Env) (m : Msg) (df : Nat) (h : getDownlinkFormat m = some df)
    (h2 : df = 18 ∨ df = 19 ∨ 22 ≤ df) : DFRec.fromMessage env m = some (.srt {}) := by
  rw [DFRec.fromMessage, h]
  exact (if_neg (by omega)).trans ((if_neg (by omega)).trans (if_neg (by omega)))

theorem fromMessage_some (env : Env) (m : Msg) (df : Nat) (hdf : getDownlinkFormat m = some df) :
    ∃ dl, DFRec.fromMessage env m = some dl := by
  rw [DFRec.fromMessage, hdf]
  exact Option.isSome_iff_exists.mp (by simp only [apply_ite Option.isSome, Option.isSome_some, ite_self])

theorem srt_fromMessage (m : Msg) (df : Nat) (h : getDownlinkFormat m = some df) :
    Srt.fromMessage m =
      { df := some df, icao := getIcao m df, altitude := if df = 4 then altitude m df else none,
        squawk := if df = 5 then squawk m else none,
        capability := if df = 11 then some (getCapability m) else none } := by
  simp only [Srt.fromMessage, h]
  by_cases h4 : df = 4
  · subst h4; rfl
  by_cases h5 : df = 5
  · subst h5; rfl
  by_cases h11 : df = 11
  · subst h11; rfl
  simp only [if_neg h4, if_neg h5, if_neg h11]

inductive TcClass | ident | surface | airborne | velocity | gnss | status | other

def tcClass (tc : Nat) : TcClass :=
  if 1 ≤ tc ∧ tc ≤ 4 then .ident else if 5 ≤ tc ∧ tc ≤ 8 then .surface else if 9 ≤ tc ∧ tc ≤ 18 then .airborne
  else if tc = 19 then .velocity else if 20 ≤ tc ∧ tc ≤ 22 then .gnss else if tc = 31 then .status else .other

section
variable {tc : Nat}
theorem tcClass_ident (h : 1 ≤ tc ∧ tc ≤ 4) : tcClass tc = .ident := if_pos h
theorem tcClass_surface (h : 5 ≤ tc ∧ tc ≤ 8) : tcClass tc = .surface := by
  unfold tcClass; rw [if_neg (by omega), if_pos h]
theorem tcClass_airborne (h : 9 ≤ tc ∧ tc ≤ 18) : tcClass tc = .airborne := by
  unfold tcClass; rw [if_neg (by omega), if_neg (by omega), if_pos h]
theorem tcClass_velocity (h : tc = 19) : tcClass tc = .velocity := by subst h; rfl
theorem tcClass_gnss (h : 20 ≤ tc ∧ tc ≤ 22) : tcClass tc = .gnss := by
  unfold tcClass; rw [if_neg (by omega), if_neg (by omega), if_neg (by omega), if_neg (by omega), if_pos h]
theorem tcClass_status (h : tc = 31) : tcClass tc = .status := by subst h; rfl
theorem tcClass_other (h : tc = 0 ∨ (23 ≤ tc ∧ tc ≠ 31)) : tcClass tc = .other := by
  unfold tcClass
  rw [if_neg (by omega), if_neg (by omega), if_neg (by omega), if_neg (by omega), if_neg (by omega), if_neg (by omega)]
end

theorem tcClass_match {α : Type} (tc : Nat) (a b c d e f g : α) :
    (if 1 ≤ tc ∧ tc ≤ 4 then a else if 5 ≤ tc ∧ tc ≤ 8 then b else if 9 ≤ tc ∧ tc ≤ 18 then c
      else if tc = 19 then d else if 20 ≤ tc ∧ tc ≤ 22 then e else if tc = 31 then f else g)
    = match tcClass tc with
      | .ident => a | .surface => b | .airborne => c | .velocity => d | .gnss => e | .status => f | .other => g := by
  simp only [tcClass, apply_ite (fun k : TcClass => match k with
      | .ident => a | .surface => b | .airborne => c | .velocity => d | .gnss => e | .status => f | .other => g)]

theorem Plane.amendExtTc_eq (env : Env) (p : Plane) (dl : Ext) :
    p.amendExtTc env dl = match tcClass dl.messageType.1 with
      | .ident => p.amendExt14 dl | .surface => p.amendExt58 env dl | .airborne => p.amendExt918 env dl
      | .velocity => p.amendExt19 dl | .gnss => p.amendExt2022 dl | .status => p.amendExt31 dl | .other => p :=
  tcClass_match ..

theorem Plane.updateExtTc_eq (env : Env) (p : Plane) (m : Msg) (df tc st : Nat) :
    p.updateExtTc env m df tc st = match tcClass tc with
      | .ident => p.updateExt14 m tc st | .surface => p.updateExt58 env m tc | .airborne => p.updateExt918 env m tc df
      | .velocity => p.updateExt19 env m st | .gnss => p.updateExt2022 m | .status => p.updateExt31 m | .other => p :=
  tcClass_match ..

def extHead (m : Msg) (df : Nat) : Ext :=
  { df := some df, icao := getIcao m df, capability := getCapability m, messageType := getMessageType m }

theorem ext_fromMessage (env : Env) (m : Msg) (df : Nat) (h : getDownlinkFormat m = some df) :
    Ext.fromMessage env m =
      let st := (getMessageType m).2
      match tcClass (getMessageType m).1 with
      | .ident => { extHead m df with ais := ais m, category := some (getMessageType m) }
      | .surface => { extHead m df with cpr := cpr m, groundMovement := groundMovement m, track := groundTrack m,
                                        trackSource := some chSup0, altitudeSource := some chSup0 }
      | .airborne => { extHead m df with cpr := cpr m, altitude := altitude m df,
                                         surveillanceStatus := some (surveillanceStatus m) }
      | .velocity => { extHead m df with
                        vrate := verticalRate m, altitudeDelta := altitudeDelta m,
                        track := if st = 1 ∨ st = 2 then (velocityOf env m st).1 else none,
                        grspeed := if st = 1 ∨ st = 2 then (velocityOf env m st).2 else none,
                        trackSource := if st = 1 then some chSub1 else if st = 2 then some chSub2 else none,
                        heading := if st = 3 ∨ st = 4 then headingRaw m else none,
                        headingSource := if st = 3 ∨ st = 4 then some chSub3 else none }
      | .gnss => { extHead m df with altitudeGnss := altitudeGnss m, surveillanceStatus := some (surveillanceStatus m) }
      | .status => { extHead m df with adsbVersion := adsbVersion m }
      | .other => extHead m df := by
  simp only [Ext.fromMessage, h]
  -- `Ext::update` tests 5..18 as a whole before it tells surface from airborne
  rw [ite_range_flat _ 5 8 18 (by decide), tcClass_match]
  cases tcClass (getMessageType m).1
  case velocity =>
    by_cases s1 : (getMessageType m).2 = 1
    · simp [s1, extHead, velocityOf]
    by_cases s2 : (getMessageType m).2 = 2
    · simp [s2, extHead, velocityOf]
    by_cases s3 : (getMessageType m).2 = 3 ∨ (getMessageType m).2 = 4 <;> simp [s1, s2, s3, extHead]
  all_goals rfl

/-- `cpr_form` is a single bit, so the -U path's check on it never filters -/
theorem cprChecked_eq (m : Msg) : cprChecked m = cpr m := by
  unfold cprChecked cpr flagAndRangeValue
  cases rangeValue m 55 71 with
  | none => rfl
  | some lat =>
    cases rangeValue m 72 88 with
    | none => rfl
    | some lon => exact if_pos (decide_eq_true (flagBit_le m 54))

end Sq
