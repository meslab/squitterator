/-
What the Comm-B decoders (`ehs/*.rs`, `bds.rs::goodflags`) compute on a 112-bit frame (`Long m`, `Proofs/Accept.lean`),
in terms of the MB-field bits `Spec.mb` of Doc 9871: the fourteen field extractors in closed form, and for each gated
register exactly which frames it accepts and what it then returns (`isBds40_iff`, `isBds50_iff`, `isBds60_iff`).
-/
import SqModel.Proofs.Accept
import SqModel.Model.Bds
import SqModel.Spec.Bds

namespace Sq
open Spec

variable {m : Msg}

theorem mb_lt (m : Msg) (a b : Nat) : mb m a b < 2 ^ (b + 1 - a) :=
  Nat.add_sub_add_left 32 (b + 1) a ▸ field_lt m (32 + a) (32 + b)

theorem mb_01 (m : Msg) (p : Nat) : mb m p p = 0 ∨ mb m p p = 1 := bit_01 m (32 + p)

theorem mb_sub (L : Long m) {a b a' b' : Nat} (h : a ≤ a' ∧ a' ≤ b' ∧ b' ≤ b ∧ b ≤ 56) :
    mb m a' b' = mb m a b / 2 ^ (b - b') % 2 ^ (b' + 1 - a') := by
  unfold mb
  rw [field_sub m (32 + a) (32 + b) _ _ (Nat.add_le_add_left h.1 32) (Nat.add_le_add_left h.2.1 32)
      (Nat.add_le_add_left h.2.2.1 32) (L.len ▸ Nat.le_trans (Nat.add_le_add_left h.2.2.2 32) (by decide)),
    Nat.add_sub_add_left, Nat.add_assoc, Nat.add_sub_add_left]

theorem mb_ne_zero (L : Long m) {a b a' b' : Nat} (h : a ≤ a' ∧ a' ≤ b' ∧ b' ≤ b ∧ b ≤ 56) (hz : mb m a' b' ≠ 0) :
    mb m a b ≠ 0 :=
  fun h0 => hz (by rw [mb_sub L h, h0, Nat.zero_div, Nat.zero_mod])

/-- `goodflags` at MB-relative positions (every use is inside MB = frame bits 33-88).
    `h` is what `far` asks of the frame positions; they are written `f + 32` so that a literal
    position of the model matches, and `simp (disch := decide)` finds `f` and proves `h` -/
theorem goodflags_eq_mb (L : Long m) (f a b : Nat) (h : 1 ≤ f + 32 ∧ f + 32 ≤ 112 ∧ 1 ≤ a + 32 ∧ a + 32 ≤ b + 32 ∧ b + 32 ≤ 112) :
    goodflags m (f + 32) (a + 32) (b + 32) = (mb m f f == 1 && mb m a b != 0) := by
  unfold goodflags mb
  rw [far L _ _ _ h, Nat.add_comm f, Nat.add_comm a, Nat.add_comm b]
  rcases bit_01 m (32 + f) with e | e <;> rw [e] <;> rfl

/-- the signed scalings of `ehs/bds_5_0.rs` and `bds_6_0.rs`, of a sign bit and a magnitude -/
def roll50 (s v : Nat) : Int := if s = 0 then Int.tdiv ((v : Int) * 45) 256 else Int.tdiv ((v : Int) * 45) 256 - 90
def angle (s v : Nat) : Nat := if s = 0 then v * 90 / 512 else v * 90 / 512 + 180
def turn50 (s v : Nat) : Int := if s = 0 then ((v / 32 : Nat) : Int) else ((v / 32 : Nat) : Int) - 16
def vrate60 (s v : Nat) : Int := if s = 0 then (32 * v : Int) else (32 * v : Int) - 16384

-- The extractors of 4,0, of 5,0 and of 6,0.  Each proof: `far`/`sfar` at the literal positions, `filt1`/`filt` (present
-- iff the status bit is set), and the shift rewritten as the multiplication or division that the closed form shows.
theorem mcp_eq_mb (L : Long m) : mcpSelectedAltitude m = if mb m 1 1 = 1 then some (16 * mb m 2 13) else none := by
  unfold mcpSelectedAltitude
  rw [far L 33 34 45 (by decide), filt1]
  simp only [Nat.shiftLeft_eq, Nat.mul_comm, Nat.reducePow]; rfl

theorem fms_eq_mb (L : Long m) : fmsSelectedAltitude m = if mb m 14 14 = 1 then some (16 * mb m 15 26) else none := by
  unfold fmsSelectedAltitude
  rw [far L 46 47 58 (by decide), filt1]
  simp only [Nat.shiftLeft_eq, Nat.mul_comm, Nat.reducePow]; rfl

theorem baro_eq_mb (L : Long m) :
    barometricPressureSetting m = some (if mb m 27 27 = 1 then mb m 28 39 / 10 + 800 else mb m 28 39 / 10) := by
  unfold barometricPressureSetting
  rw [far L 59 60 71 (by decide)]
  rfl

theorem tasrc_eq (m : Msg) (L : Long m) :
    targetAltitudeSource m = if field m 86 86 = 1 then some (field m 87 88) else none := by
  unfold targetAltitudeSource
  rw [far L 86 87 88 (by decide), filt1]

theorem roll_eq_mb (L : Long m) :
    rollAngle50 m = if mb m 1 1 = 1 then
        some (roll50 (mb m 2 2) (mb m 3 11))
      else none := by
  unfold rollAngle50
  rw [sfar L 33 34 35 43 (by decide), filt1]
  rfl

theorem trackAngle_eq_mb (L : Long m) :
    trackAngle50 m = if mb m 12 12 = 1 then
        some (angle (mb m 13 13) (mb m 14 23))
      else none := by
  unfold trackAngle50
  rw [sfar L 44 45 46 55 (by decide), filt1]
  simp only [Nat.shiftRight_eq_div_pow, Nat.reducePow]; rfl

theorem tar_eq_mb (L : Long m) :
    trackAngleRate50 m = if mb m 35 35 = 1 then
        some (turn50 (mb m 36 36) (mb m 37 45))
      else none := by
  unfold trackAngleRate50
  rw [sfar L 67 68 69 77 (by decide), filt1]
  simp only [Nat.shiftLeft_eq, Nat.shiftRight_eq_div_pow, Nat.mul_div_mul_right _ 32 (Nat.two_pow_pos 3)]; rfl

theorem gs50_eq_mb (L : Long m) : groundSpeed50 m = if mb m 24 24 = 1 then some (2 * mb m 25 34) else none := by
  unfold groundSpeed50
  rw [far L 56 57 66 (by decide), filt1]
  simp only [Nat.shiftLeft_eq, Nat.mul_comm, Nat.reducePow]; rfl

theorem tas50_eq_mb (L : Long m) : trueAirspeed50 m = if mb m 46 46 = 1 then some (2 * mb m 47 56) else none := by
  unfold trueAirspeed50
  rw [far L 78 79 88 (by decide), filt1]
  simp only [Nat.shiftLeft_eq, Nat.mul_comm, Nat.reducePow]; rfl

theorem hdg60_eq_mb (L : Long m) :
    magneticHeading60 m = if mb m 1 1 = 1 then
        some (angle (mb m 2 2) (mb m 3 12))
      else none := by
  unfold magneticHeading60
  rw [sfar L 33 34 35 44 (by decide), filt1]
  simp only [Nat.shiftRight_eq_div_pow, Nat.reducePow]; rfl

theorem ias60_eq_mb (L : Long m) :
    indicatedAirspeed60 m = if mb m 13 13 = 1 ∧ mb m 14 23 ≠ 0 then some (mb m 14 23) else none := by
  unfold indicatedAirspeed60
  rw [far L 45 46 55 (by decide), filt]
  simp only [Bool.and_eq_true, beq_iff_eq, bne_iff_ne]; rfl

theorem mach60_eq_mb (L : Long m) :
    machRaw60 m = if mb m 24 24 = 1 ∧ mb m 25 34 ≠ 0 then some (mb m 25 34) else none := by
  unfold machRaw60
  rw [far L 56 57 66 (by decide), filt]
  simp only [Bool.and_eq_true, beq_iff_eq, bne_iff_ne]; rfl

theorem baroRate60_eq_mb (L : Long m) :
    barometricAltitudeRate60 m = if mb m 35 35 = 1 ∧ mb m 37 45 ≠ 0 then
        some (vrate60 (mb m 36 36) (mb m 37 45))
      else none := by
  unfold barometricAltitudeRate60
  rw [sfar L 67 68 69 77 (by decide), filt]
  simp only [Bool.and_eq_true, beq_iff_eq, bne_iff_ne, Nat.shiftLeft_eq, Int.natCast_mul, Int.mul_comm]; rfl

theorem ivv60_eq_mb (L : Long m) :
    internalVerticalVelocity60 m = if mb m 46 46 = 1 ∧ mb m 48 56 ≠ 0 then
        some (vrate60 (mb m 47 47) (mb m 48 56))
      else none := by
  unfold internalVerticalVelocity60
  rw [sfar L 78 79 80 88 (by decide), filt]
  simp only [Bool.and_eq_true, beq_iff_eq, bne_iff_ne, Nat.shiftLeft_eq, Int.natCast_mul, Int.mul_comm]; rfl

-- The three proofs of `isBdsNN_iff` take the same steps.  The `goodflags` tests say which status bits are set and
-- which fields are not zero (`goodflags_eq_mb`; regrouped, that is `ValidNN m ∧ …`).  Given the status bits every
-- extractor is `some`, and a filter that no field value can fail disappears.  What is then left of the final test is
-- the plausibility clause.

theorem isBds40_iff (L : Long m) (v : Bds40) :
    isBds40 m = some v ↔
      (Valid40 m ∧ mb m 2 13 ≠ 0 ∧ mb m 15 26 ≠ 0 ∧ mb m 28 39 ≠ 0)
      ∧ v = ⟨some (16 * mb m 2 13), some (16 * mb m 15 26), some (mb m 28 39 / 10 + 800), targetAltitudeSource m⟩ := by
  unfold isBds40
  rw [Option.ite_none_left_eq_some]
  refine Iff.trans (and_congr_left' ?_) (and_congr_right fun h => ?_)
  · simp (disch := decide) only [goodflags_eq_mb L, Bool.or_eq_true, Bool.not_eq_true', not_or, Bool.not_eq_false,
      Bool.and_eq_true, beq_iff_eq, bne_iff_ne, ne_eq, not_and, Decidable.not_not, and_assoc]
    constructor
    · rintro ⟨s1, n1, s2, n2, s3, n3, r1, r2⟩
      exact ⟨⟨s1, s2, s3, r1 s1, r2 s1⟩, n1, n2, n3⟩
    · rintro ⟨⟨s1, s2, s3, r1, r2⟩, n1, n2, n3⟩
      exact ⟨s1, n1, s2, n2, s3, n3, fun _ => r1, fun _ => r2⟩
  obtain ⟨s, -⟩ := h
  -- 16 · 4095 ft, 800 + 4095 / 10 mb and a two-bit source (whose status bit is not among those tested) pass their filters
  have alt (a b : Nat) (l : mb m a b < 2 ^ 12) : 16 * mb m a b ≤ 65530 :=
    Nat.le_trans (Nat.mul_le_mul_left 16 (Nat.le_of_lt_succ l)) (by decide)
  have baro : 800 ≤ mb m 28 39 / 10 + 800 ∧ mb m 28 39 / 10 + 800 ≤ 1210 :=
    ⟨Nat.le_add_left .., Nat.add_le_add_right (Nat.le_trans (Nat.div_le_div_right (Nat.le_of_lt_succ (mb_lt m 28 39))) (by decide)) 800⟩
  have src : field m 87 88 ≤ 3 := Nat.le_of_lt_succ (field_lt m 87 88)
  simp only [mcp_eq_mb L, fms_eq_mb L, baro_eq_mb L, tasrc_eq m L, s.s1, s.s2, s.s3, alt 2 13 (mb_lt m 2 13), alt 15 26 (mb_lt m 15 26),
    baro, src, if_true, apply_ite (Option.filter _), Option.filter_some, Option.filter_none, Option.isSome_some, Bool.or_self,
    and_self, decide_true, Option.some.injEq, eq_comm (a := v)]

theorem angle_le {s v : Nat} (hv : v < 2 ^ 10) : angle s v ≤ 360 := by
  have h : v * 90 / 512 < 180 :=
    Nat.div_lt_of_lt_mul (Nat.lt_of_lt_of_eq (Nat.mul_lt_mul_of_pos_right hv (by decide)) (by decide : 2 ^ 10 * 90 = 512 * 180))
  exact ite_ind (· ≤ 360) (Nat.le_trans (Nat.le_of_lt h) (by decide)) (Nat.add_le_add_right (Nat.le_of_lt h) 180)

theorem turn50_bounds {s v : Nat} (hv : v < 2 ^ 9) : -16 ≤ turn50 s v ∧ turn50 s v ≤ 16 := by
  have h : ((v / 32 : Nat) : Int) < 16 := Int.ofNat_lt.2 (Nat.div_lt_of_lt_mul hv)
  have h0 : (0 : Int) ≤ (v / 32 : Nat) := Int.natCast_nonneg _
  exact ite_ind (fun x : Int => -16 ≤ x ∧ x ≤ 16) ⟨Int.le_trans (by decide) h0, Int.le_of_lt h⟩
    ⟨Int.sub_le_sub_right h0 16, Int.le_trans (Int.sub_le_self _ (by decide)) (Int.le_of_lt h)⟩

theorem isBds50_iff (L : Long m) (t : Bds50) :
    isBds50 m = some t ↔
      (Valid50 m ∧ mb m 2 11 ≠ 0 ∧ mb m 13 23 ≠ 0 ∧ mb m 25 34 ≠ 0 ∧ mb m 36 45 ≠ 0 ∧ mb m 47 56 ≠ 0)
      ∧ (-50 ≤ roll50 (mb m 2 2) (mb m 3 11) ∧ roll50 (mb m 2 2) (mb m 3 11) ≤ 50)
      ∧ 2 * mb m 25 34 ≤ 600 ∧ 2 * mb m 47 56 ≤ 500
      ∧ (if 2 * mb m 25 34 ≤ 2 * mb m 47 56 then 2 * mb m 47 56 - 2 * mb m 25 34 else 2 * mb m 25 34 - 2 * mb m 47 56) < 200
      ∧ t = ⟨some (roll50 (mb m 2 2) (mb m 3 11)), some (angle (mb m 13 13) (mb m 14 23)),
              some (turn50 (mb m 36 36) (mb m 37 45)), some (2 * mb m 25 34), some (2 * mb m 47 56)⟩ := by
  unfold isBds50
  rw [Option.ite_none_left_eq_some]
  refine Iff.trans (and_congr_left' ?_) (and_congr_right fun h => ?_)
  · simp (disch := decide) only [goodflags_eq_mb L, Bool.or_eq_true, Bool.not_eq_true', not_or, Bool.not_eq_false,
      Bool.and_eq_true, beq_iff_eq, bne_iff_ne, and_assoc]
    constructor
    · rintro ⟨s1, n1, s2, n2, s3, n3, s4, n4, s5, n5⟩
      exact ⟨⟨s1, s2, s3, s4, s5⟩, n1, n2, n3, n4, n5⟩
    · rintro ⟨⟨s1, s2, s3, s4, s5⟩, n1, n2, n3, n4, n5⟩
      exact ⟨s1, n1, s2, n2, s3, n3, s4, n4, s5, n5⟩
  obtain ⟨v, -⟩ := h
  simp only [roll_eq_mb L, trackAngle_eq_mb L, tar_eq_mb L, gs50_eq_mb L, tas50_eq_mb L, v.s1, v.s2, v.s3, v.s4, v.s5,
    angle_le (mb_lt m 14 23), turn50_bounds (mb_lt m 37 45), if_true, Option.filter_some, and_self, decide_true]
  -- the final `match` wants all five values present: that is the three filters which can fail
  split
  · rename_i e1 e2 e3 _ _
    simp only [Option.ite_none_right_eq_some, decide_eq_true_eq, Option.some.injEq] at e1 e2 e3
    obtain ⟨g1, rfl⟩ := e1
    obtain ⟨g2, rfl⟩ := e2
    simp only [g1, g2, e3.1, and_self, if_true, true_and, decide_true, Option.ite_none_right_eq_some, Option.some.injEq,
      eq_comm (a := t)]
  · rename_i hn
    exact ⟨nofun, fun h =>
      (hn _ _ _ _ _ (if_pos (decide_eq_true h.2.1)) (if_pos (decide_eq_true h.2.2.1)) (if_pos (decide_eq_true h.1)) rfl rfl).elim⟩

theorem isBds60_iff (L : Long m) (b : Bds60) :
    isBds60 m = some b ↔
      (Valid60 m ∧ mb m 2 12 ≠ 0 ∧ mb m 14 23 ≠ 0 ∧ mb m 25 34 ≠ 0 ∧ mb m 36 45 ≠ 0 ∧ mb m 47 56 ≠ 0)
      ∧ mb m 25 34 ≤ 250
      ∧ (mb m 37 45 ≠ 0 → -6000 ≤ vrate60 (mb m 36 36) (mb m 37 45) ∧ vrate60 (mb m 36 36) (mb m 37 45) ≤ 6000)
      ∧ (mb m 48 56 ≠ 0 → -6000 ≤ vrate60 (mb m 47 47) (mb m 48 56) ∧ vrate60 (mb m 47 47) (mb m 48 56) ≤ 6000)
      ∧ b = ⟨some (angle (mb m 2 2) (mb m 3 12)), some (mb m 14 23), some (mb m 25 34),
              if mb m 37 45 ≠ 0 then some (vrate60 (mb m 36 36) (mb m 37 45)) else none,
              if mb m 48 56 ≠ 0 then some (vrate60 (mb m 47 47) (mb m 48 56)) else none⟩ := by
  unfold isBds60
  rw [Option.ite_none_right_eq_some]
  extract_lets B okRate
  -- a vertical rate whose value field is zero is absent, and an absent rate is not tested
  have rate (z : Prop) [Decidable z] (x : Int) :
      okRate (if z then some x else none) = true ↔ (z → -6000 ≤ x ∧ x ≤ 6000) := by
    by_cases h : z <;> simp [okRate, h]
  refine Iff.trans (and_congr_left' ?_) (and_congr_right fun h => ?_)
  · simp (disch := decide) only [goodflags_eq_mb L, Bool.and_eq_true, beq_iff_eq, bne_iff_ne, and_assoc]
    constructor
    · rintro ⟨s1, n1, s2, n2, s3, n3, s4, n4, s5, n5⟩
      exact ⟨⟨s1, s2, s3, s4, s5⟩, n1, n2, n3, n4, n5⟩
    · rintro ⟨⟨s1, s2, s3, s4, s5⟩, n1, n2, n3, n4, n5⟩
      exact ⟨s1, n1, s2, n2, s3, n3, s4, n4, s5, n5⟩
  obtain ⟨v, -, nias, nmach, -⟩ := h
  have ias : mb m 14 23 ≤ 1023 := Nat.le_of_lt_succ (mb_lt m 14 23)
  simp only [B, hdg60_eq_mb L, ias60_eq_mb L, mach60_eq_mb L, baroRate60_eq_mb L, ivv60_eq_mb L, v.s1, v.s2, v.s3, v.s4, v.s5,
    nias, nmach, angle_le (mb_lt m 3 12), ias, rate, ne_eq, not_false_eq_true, and_self, true_and, if_true, decide_true,
    Bool.true_and, Option.ite_none_right_eq_some, Bool.and_eq_true, decide_eq_true_eq, Option.some.injEq, and_assoc,
    eq_comm (a := b)]

end Sq
