/-
The CRC registers of `crc.rs` compute the Mode S CRC-24: for every 32-bit (resp. 88-bit) data
block the in-place register division of `crc56` (resp. the three-register `crc112`) equals the
textbook remainder `Spec.crc24` of the same bits.  Route (`machine_eq_specCrc`): both sides are
GF(2)-linear, and on the unit vectors both are orbits of one step, compared in a single pass in the
kernel.  Linearity is read off a closed form of each step: a shift, xor `sel c g` for every bit `c`
that steers the step.
-/
import SqModel.Model.Crc
import SqModel.Spec.Crc
import SqModel.Proofs.Bits

namespace Sq
open Spec

theorem linear_ext {n m : Nat} (f g : BitVec n → BitVec m)
    (hf : ∀ a b, f (a ^^^ b) = f a ^^^ f b) (hg : ∀ a b, g (a ^^^ b) = g a ^^^ g b)
    (hb : ∀ i, i < n → f (BitVec.twoPow n i) = g (BitVec.twoPow n i)) : ∀ x, f x = g x := by
  have f0 : f 0 = 0 := by simpa using hf 0 0
  have g0 : g 0 = 0 := by simpa using hg 0 0
  -- by the number `k` of low bits that may be set: a vector with bit `k` set is one without, plus a unit vector
  have key : ∀ k, k ≤ n → ∀ x : BitVec n, (∀ i, k ≤ i → x.getLsbD i = false) → f x = g x := by
    intro k
    induction k with
    | zero =>
      intro _ x hx
      rw [show x = 0 from BitVec.eq_of_getLsbD_eq fun i _ => (hx i (Nat.zero_le i)).trans BitVec.getLsbD_zero.symm, f0, g0]
    | succ k ih =>
      intro hk x hx
      cases hbit : x.getLsbD k with
      | false =>
        exact ih (Nat.le_of_succ_le hk) x fun i hi => (Nat.eq_or_lt_of_le hi).elim (fun e => e ▸ hbit) (hx i)
      | true =>
        have hy := ih (Nat.le_of_succ_le hk) (x ^^^ BitVec.twoPow n k) fun i hi => by
          rw [BitVec.getLsbD_xor, BitVec.getLsbD_twoPow, decide_eq_true (Nat.lt_of_succ_le hk), Bool.true_and]
          rcases Nat.eq_or_lt_of_le hi with rfl | h
          · rw [hbit, decide_eq_true rfl]; rfl
          · rw [hx i h, decide_eq_false (Nat.ne_of_lt h)]; rfl
        have hx' : x = x ^^^ BitVec.twoPow n k ^^^ BitVec.twoPow n k := by
          rw [BitVec.xor_assoc, BitVec.xor_self, BitVec.xor_zero]
        rw [hx', hf, hg, hy, hb k (Nat.lt_of_succ_le hk)]
  exact fun x => key n (Nat.le_refl n) x (BitVec.getLsbD_of_ge x)

/-- `c • g` over GF(2) -/
def sel (c : Bool) (g : BitVec n) : BitVec n := if c then g else 0

theorem sel_xor (a b : Bool) (g : BitVec n) : sel (a ^^ b) g = sel a g ^^^ sel b g := by
  cases a <;> cases b <;> simp [sel]

theorem xor4 (a b c d : BitVec n) : a ^^^ b ^^^ (c ^^^ d) = a ^^^ c ^^^ (b ^^^ d) := by ac_rfl

theorem shl1_or_one (x : BitVec n) : x <<< 1 ||| 1#n = x <<< 1 ^^^ 1#n := by
  ext i hi
  by_cases h0 : i = 0 <;> simp [h0]

theorem iter_hom {α : Type} (f : α → α) (op : α → α → α) (hf : ∀ a b, f (op a b) = op (f a) (f b))
    (n : Nat) (a b : α) : iter f n (op a b) = op (iter f n a) (iter f n b) := by
  induction n generalizing a b with
  | zero => rfl
  | succ n ih => simp [iter, hf, ih]

theorem iter_add {α : Type} (f : α → α) (a b : Nat) (x : α) : iter f (a + b) x = iter f b (iter f a x) := by
  induction a generalizing x with
  | zero => rw [Nat.zero_add]; rfl
  | succ a ih => rw [Nat.add_right_comm]; exact ih (f x)

theorem iter_load_twoPow {σ : Type} {n : Nat} (L : BitVec n → σ) (step : σ → σ)
    (h : ∀ i, i < n - 1 → step (L (BitVec.twoPow n i)) = L (BitVec.twoPow n (i + 1))) (N : Nat) :
    ∀ i, i < n → iter step N (L (BitVec.twoPow n i)) = iter step i (iter step N (L (BitVec.twoPow n 0))) := by
  intro i hi
  rw [← iter_add, Nat.add_comm, iter_add]
  congr 1
  induction i with
  | zero => rfl
  | succ i ih => rw [← h i (Nat.lt_sub_of_add_lt hi), ih (Nat.lt_of_succ_lt hi)]; exact (iter_add step i 1 _).symm

theorem iter_prod {α β : Type} (f : α → α) (g : β → β) (n : Nat) (a : α) (b : β) :
    iter (Prod.map f g) n (a, b) = (iter f n a, iter g n b) := by
  induction n generalizing a b with
  | zero => rfl
  | succ n ih => exact ih _ _

/-- one pass along an orbit (two orbits compared point by point are one orbit of pairs, `iter_prod`) -/
def orbitAll {α : Type} (p : α → Bool) (s : α → α) : Nat → α → Bool
  | 0, _ => true
  | k + 1, a => p a && orbitAll p s k (s a)

theorem orbitAll_spec {α : Type} (p : α → Bool) (s : α → α) :
    ∀ k a, orbitAll p s k a = true → ∀ i, i < k → p (iter s i a) = true
  | k + 1, a, h, i, hi => by
    rw [orbitAll, Bool.and_eq_true] at h
    cases i with
    | zero => exact h.1
    | succ i => exact orbitAll_spec p s k _ h.2 i (Nat.lt_of_succ_lt_succ hi)

theorem specStep_eq (r : BitVec 24) (b : Bool) :
    specStep r b = r <<< 1 ^^^ sel b 1#24 ^^^ sel r.msb (G.truncate 24) := by
  have hm : ((r.zeroExtend 25 <<< 1) ||| (BitVec.ofBool b).zeroExtend 25).msb = r.msb := by
    simp [BitVec.msb_eq_getLsbD_last]
  have ht : ((r.zeroExtend 25 <<< 1) ||| (BitVec.ofBool b).zeroExtend 25).truncate 24 = r <<< 1 ^^^ sel b 1#24 := by
    rw [BitVec.truncate, BitVec.setWidth_or, BitVec.setWidth_shiftLeft_of_le (by decide), BitVec.zeroExtend,
      BitVec.setWidth_setWidth_of_le _ (by decide), BitVec.setWidth_eq]
    cases b
    · exact BitVec.or_zero.trans BitVec.xor_zero.symm
    · exact shl1_or_one r
  unfold specStep
  simp only [hm]
  cases r.msb
  · rw [if_neg (by decide), ht]; exact BitVec.xor_zero.symm
  · rw [if_pos rfl, BitVec.truncate, BitVec.setWidth_xor, ← BitVec.truncate, ht]; rfl

theorem specStep_xor (r1 r2 : BitVec 24) (b1 b2 : Bool) :
    specStep (r1 ^^^ r2) (b1 ^^ b2) = specStep r1 b1 ^^^ specStep r2 b2 := by
  rw [specStep_eq, specStep_eq, specStep_eq, BitVec.msb_xor, BitVec.shiftLeft_xor_distrib, sel_xor, sel_xor, xor4 (r1 <<< 1), xor4]

theorem foldl_specStep_xor : ∀ (l1 l2 : List Bool), l1.length = l2.length → ∀ r1 r2,
    (List.zipWith Bool.xor l1 l2).foldl specStep (r1 ^^^ r2)
      = l1.foldl specStep r1 ^^^ l2.foldl specStep r2
  | [], [], _, _, _ => rfl
  | a :: l1, b :: l2, h, r1, r2 => by
    rw [List.zipWith_cons_cons, List.foldl_cons, List.foldl_cons, List.foldl_cons, specStep_xor]
    exact foldl_specStep_xor l1 l2 (Nat.succ.inj h) _ _

theorem syndrome_xor (l1 l2 : List Bool) (h : l1.length = l2.length) :
    syndrome (List.zipWith Bool.xor l1 l2) = syndrome l1 ^^^ syndrome l2 :=
  foldl_specStep_xor l1 l2 h 0 0

theorem syndrome_zeros_append (k : Nat) (l : List Bool) :
    syndrome (List.replicate k false ++ l) = syndrome l := by
  unfold syndrome
  induction k with
  | zero => rfl
  | succ k ih => rw [List.replicate_succ, List.cons_append, List.foldl_cons, show specStep 0 false = 0 by decide]; exact ih

def bvBits (x : BitVec n) : List Bool := (List.range n).map (fun i => x.getMsbD i)

theorem bvBits_xor (a b : BitVec n) : bvBits (a ^^^ b) = List.zipWith Bool.xor (bvBits a) (bvBits b) := by
  unfold bvBits
  rw [List.zipWith_map, List.zipWith_self]
  simp

theorem bvBits_length (a : BitVec n) : (bvBits a).length = n := by simp [bvBits]

theorem foldl_zeros_eq_iter (k : Nat) (r : BitVec 24) :
    (List.replicate k false).foldl specStep r = iter (specStep · false) k r := by
  induction k generalizing r with
  | zero => rfl
  | succ k ih => exact ih _

theorem crc24_eq_iter (l : List Bool) : crc24 l = iter (specStep · false) 24 (syndrome l) := by
  rw [crc24, syndrome, List.foldl_append, foldl_zeros_eq_iter]
  rfl

def specCrc (x : BitVec n) : BitVec 24 := crc24 (bvBits x)

theorem specCrc_xor (a b : BitVec n) : specCrc (a ^^^ b) = specCrc a ^^^ specCrc b := by
  rw [specCrc, specCrc, specCrc, crc24_eq_iter, crc24_eq_iter, crc24_eq_iter, bvBits_xor,
    syndrome_xor _ _ (by rw [bvBits_length, bvBits_length]), iter_hom _ _ fun r1 r2 => specStep_xor r1 r2 false false]

theorem bvBits_twoPow (k i : Nat) :
    bvBits (BitVec.twoPow (k + 1 + i) i) = List.replicate k false ++ true :: List.replicate i false := by
  apply List.ext_getElem
  · simp [bvBits_length]; omega
  · intro j h1 h2
    simp [bvBits, List.getElem_append, List.getElem_cons]
    rw [Bool.eq_iff_iff]; simp; omega

theorem syndrome_twoPow (n i : Nat) (hi : i < n) :
    syndrome (bvBits (BitVec.twoPow n i)) = iter (specStep · false) i (specStep 0 true) := by
  obtain ⟨k, rfl⟩ : ∃ k, n = k + 1 + i := ⟨n - 1 - i, by omega⟩
  rw [bvBits_twoPow, syndrome_zeros_append, syndrome, List.foldl_cons, foldl_zeros_eq_iter]

theorem specCrc_twoPow (n i : Nat) (hi : i < n) :
    specCrc (BitVec.twoPow n i) = iter (specStep · false) i (iter (specStep · false) 24 (specStep 0 true)) := by
  rw [specCrc, crc24_eq_iter, syndrome_twoPow n i hi, ← iter_add, Nat.add_comm, iter_add]

/-- `horbit`: what the machine returns for the first unit vector and then after every further step are the remainders
    of `x^24, x^25, ..` (one pass over both orbits) -/
theorem machine_eq_specCrc {σ : Type} {n : Nat} (add : σ → σ → σ) (load : BitVec n → σ) (step : σ → σ) (out : σ → BitVec 24) (N : Nat)
    (hload : ∀ a b, load (a ^^^ b) = add (load a) (load b)) (hstep : ∀ s t, step (add s t) = add (step s) (step t))
    (hout : ∀ s t, out (add s t) = out s ^^^ out t)
    (hnext : ∀ i, i < n - 1 → step (load (BitVec.twoPow n i)) = load (BitVec.twoPow n (i + 1)))
    (horbit : orbitAll (fun q => out q.1 == q.2) (Prod.map step (specStep · false)) n
      (iter step N (load (BitVec.twoPow n 0)), iter (specStep · false) 24 (specStep 0 true)) = true) (x : BitVec n) :
    out (iter step N (load x)) = specCrc x :=
  linear_ext (fun x => out (iter step N (load x))) specCrc
    (fun a b => by simp only [hload, iter_hom step add hstep, hout]) specCrc_xor
    (fun i hi => by
      have h := orbitAll_spec _ _ n _ horbit i hi
      rw [iter_prod] at h
      rw [iter_load_twoPow load step hnext N i hi, specCrc_twoPow n i hi]
      exact eq_of_beq h) x

theorem crcStep56_eq (d : BitVec 32) : crcStep56 d = d <<< 1 ^^^ sel d.msb (crcPoly <<< 1) := by
  unfold crcStep56 sel
  cases d.msb <;> simp [BitVec.shiftLeft_xor_distrib]

theorem crcStep56_xor (a b : BitVec 32) : crcStep56 (a ^^^ b) = crcStep56 a ^^^ crcStep56 b := by
  rw [crcStep56_eq, crcStep56_eq, crcStep56_eq, BitVec.msb_xor, BitVec.shiftLeft_xor_distrib, sel_xor, xor4]

theorem crcStep56_twoPow (i : Nat) (hi : i < 31) : crcStep56 (BitVec.twoPow 32 i) = BitVec.twoPow 32 (i + 1) := by
  rw [crcStep56, BitVec.msb_twoPow, show decide (i = 32 - 1) = false by simp; omega, Bool.and_false,
    BitVec.twoPow_eq, BitVec.twoPow_eq, BitVec.shiftLeft_add]
  rfl

theorem crc56Reg_eq_spec (x : BitVec 32) : (iter crcStep56 Gen.crc56Rounds x).extractLsb' 8 24 = specCrc x :=
  machine_eq_specCrc (· ^^^ ·) id crcStep56 (·.extractLsb' 8 24) _ (fun _ _ => rfl) crcStep56_xor (fun _ _ => BitVec.extractLsb'_xor)
    crcStep56_twoPow (by decide +kernel) x

def Crc112State.xor (a b : Crc112State) : Crc112State :=
  { data := a.data ^^^ b.data, data1 := a.data1 ^^^ b.data1, data2 := a.data2 ^^^ b.data2 }

theorem crcStep112_eq (s : Crc112State) :
    crcStep112 s =
      { data := crcStep56 s.data ^^^ sel s.data1.msb 1#32
        data1 := s.data1 <<< 1 ^^^ sel s.data2.msb 1#32
        data2 := s.data2 <<< 1 } := by
  unfold crcStep112 crcStep56 sel
  cases s.data1.msb <;> cases s.data2.msb <;> simp [shl1_or_one]

theorem crcStep112_xor (a b : Crc112State) :
    crcStep112 (a.xor b) = (crcStep112 a).xor (crcStep112 b) := by
  simp only [crcStep112_eq, Crc112State.xor, BitVec.msb_xor, sel_xor, BitVec.shiftLeft_xor_distrib, crcStep56_xor]
  rw [xor4 (crcStep56 a.data), xor4 (a.data1 <<< 1)]

def regs112 (x : BitVec 88) : Crc112State :=
  { data := BitVec.ofNat 32 (x.toNat / 2 ^ 56), data1 := BitVec.ofNat 32 (x.toNat / 2 ^ 24 % 2 ^ 32),
    data2 := BitVec.ofNat 32 ((x.toNat % 2 ^ 24) <<< 8) }

theorem regs112_xor (a b : BitVec 88) : regs112 (a ^^^ b) = (regs112 a).xor (regs112 b) := by
  simp only [regs112, Crc112State.xor, BitVec.toNat_xor, Nat.xor_div_two_pow, Nat.xor_mod_two_pow,
    Nat.shiftLeft_xor_distrib, BitVec.ofNat_xor]

deriving instance DecidableEq for Crc112State

theorem crcStep112_twoPow : ∀ i, i < 87 →
    crcStep112 (regs112 (BitVec.twoPow 88 i)) = regs112 (BitVec.twoPow 88 (i + 1)) := by decide +kernel

theorem crc112Reg_eq_spec (x : BitVec 88) : (iter crcStep112 Gen.crc112Rounds (regs112 x)).data.extractLsb' 8 24 = specCrc x :=
  machine_eq_specCrc Crc112State.xor regs112 crcStep112 (·.data.extractLsb' 8 24) _ regs112_xor crcStep112_xor
    (fun _ _ => BitVec.extractLsb'_xor) crcStep112_twoPow (by decide +kernel) x

theorem bvBits_field (m : Msg) (a k : Nat) (h : a + k ≤ 4 * m.length) :
    bvBits (BitVec.ofNat k (field m (a + 1) (a + k))) = (List.range' (a + 1) k).map (bit m) := by
  unfold bvBits
  apply List.ext_getElem (by simp)
  intro i h1 _
  have hi : i < k := by simpa using h1
  obtain ⟨hA, hB, hlt⟩ : a + 1 + 1 * i ≤ a + k ∧ a + k - (a + 1 + 1 * i) = k - 1 - i ∧ k - 1 - i < k := by omega
  have hb : bit m (a + 1 + 1 * i) = (field m (a + 1) (a + k)).testBit (k - 1 - i) := by
    unfold bit
    rw [field_sub m (a + 1) (a + k) _ _ (Nat.le_add_right _ _) (Nat.le_refl _) hA h, Nat.add_sub_cancel_left,
      Nat.testBit_eq_decide_div_mod_eq, hB, Nat.pow_one]
    exact Bool.beq_eq_decide_eq ..
  simp only [List.getElem_map, List.getElem_range, List.getElem_range', hb, BitVec.getMsbD_eq_getLsbD,
    BitVec.getLsbD_ofNat, hi, hlt, decide_true, Bool.true_and]

theorem bvBits_ofNat_field (m : Msg) (n : Nat) (hn : n ≤ 4 * m.length) :
    bvBits (BitVec.ofNat n (field m 1 n)) = bitsOf m 1 n := by
  have := bvBits_field m 0 n (by rwa [Nat.zero_add])
  rwa [Nat.zero_add, Nat.zero_add] at this

theorem shr8_toNat (v : BitVec 32) : (v >>> 8).toNat = (v.extractLsb' 8 24).toNat := by
  rw [BitVec.extractLsb'_toNat, ← BitVec.toNat_ushiftRight, Nat.mod_eq_of_lt (BitVec.toNat_ushiftRight_lt v 8 (by decide))]

theorem crc56_eq_spec (m : Msg) (h : AllNib m) (hl : 8 ≤ m.length) :
    crc56 m = (crc24 (bitsOf m 1 32)).toNat := by
  have h32 : 32 ≤ 4 * m.length := Nat.mul_le_mul_left 4 hl
  rw [crc56, rangeValue_eq_field m h 1 32 (by decide) (by decide) h32, Option.getD_some, shr8_toNat, ← bvBits_ofNat_field m 32 h32]
  exact congrArg BitVec.toNat (crc56Reg_eq_spec _)

theorem crc112_eq_spec (m : Msg) (h : AllNib m) (hl : 22 ≤ m.length) :
    crc112 m = (crc24 (bitsOf m 1 88)).toNat := by
  have h88 : 64 + 24 ≤ 4 * m.length := Nat.mul_le_mul_left 4 hl
  have h64 : 32 + 32 ≤ 4 * m.length := Nat.le_of_add_right_le h88
  have hreg : regs112 (BitVec.ofNat 88 (field m 1 88))
      = ⟨BitVec.ofNat 32 (field m 1 32), BitVec.ofNat 32 (field m 33 64), BitVec.ofNat 32 (field m 65 88 <<< 8)⟩ := by
    rw [regs112, BitVec.toNat_ofNat, Nat.mod_eq_of_lt (show field m 1 88 < 2 ^ 88 from field_lt m 1 88),
      field_div m 1 32 56 (by decide) h88, field_div m 1 64 24 (by decide) h88, field_mod m 1 32 32 (by decide) h64,
      field_mod m 1 64 24 (by decide) h88]
  rw [crc112, rangeValue_eq_field m h 1 32 (by decide) (by decide) (Nat.le_of_add_right_le h64),
    rangeValue_eq_field m h 33 64 (by decide) (by decide) h64,
    rangeValue_eq_field m h 65 88 (by decide) (by decide) h88, Option.getD_some, Option.getD_some, Option.getD_some,
    ← hreg, shr8_toNat, ← bvBits_ofNat_field m 88 h88]
  exact congrArg BitVec.toNat (crc112Reg_eq_spec _)

end Sq
