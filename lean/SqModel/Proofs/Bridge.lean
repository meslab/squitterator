/-
Bridge: the definitions the translator generates from /repo's source (`Generated/Trans.lean`, namespace `Sq.T`)
are the hand-written model functions every property theorem is stated about.
-/
import SqModel.Generated.Trans
import SqModel.Model.Bds
import SqModel.Proofs.Accept
import SqModel.Proofs.BridgeBits

namespace Sq.Bridge
open Sq Spec

theorem get_message_type_eq (m : Msg) : T.get_message_type m = getMessageType m := rfl
theorem get_capability_eq (m : Msg) : T.get_capability m = getCapability m := rfl
theorem me_code_eq (m : Msg) : T.me_code m = meCode m := rfl
theorem version_eq (m : Msg) : T.version m = adsbVersion m := rfl
theorem altitude_gnss_eq (m : Msg) : T.altitude_gnss m = altitudeGnss m := rfl
theorem surveillance_status_eq (m : Msg) : T.surveillance_status m = surveillanceStatus m := rfl
theorem heading_eq (m : Msg) : T.heading m = headingRaw m := rfl
theorem ground_track_eq (m : Msg) : T.ground_track m = groundTrack m := rfl
theorem cpr_eq (m : Msg) : T.cpr m = cpr m := by
  unfold T.cpr cpr
  cases flagAndRangeValue m 54 55 71 <;> rfl
theorem squawk_eq (m : Msg) : T.squawk m = squawk m := rfl
theorem threat_encounter_eq (m : Msg) : T.threat_encounter m = threatEncounter m := by
  simp [T.threat_encounter, threatEncounter]
theorem ia5_eq (c : Nat) : T.ia5 c = ia5 c := by
  simp [T.ia5, ia5]
theorem wake_eq (vc : Nat × Nat) : T.get_wake_turbulence_category vc = wakeCategory vc := by
  unfold T.get_wake_turbulence_category wakeCategory
  by_cases h : vc.1 = 4 <;> simp [h]
theorem mcp_eq (m : Msg) : T.mcp_selected_altitude m = mcpSelectedAltitude m := rfl
theorem fms_eq (m : Msg) : T.fms_selected_altitude m = fmsSelectedAltitude m := rfl
theorem tas_source_eq (m : Msg) : T.target_altitude_source m = targetAltitudeSource m := rfl
theorem baro_eq (m : Msg) : T.barometric_pressure_setting m = barometricPressureSetting m := by
  unfold T.barometric_pressure_setting barometricPressureSetting
  cases flagAndRangeValue m 59 60 71 with
  | none => rfl
  | some v => exact (apply_ite some ..).symm
theorem goodflags_eq (m : Msg) (f sb eb : Nat) : T.goodflags m f sb eb = goodflags m f sb eb := by
  unfold T.goodflags goodflags
  cases flagAndRangeValue m f sb eb <;> rfl

theorem u32ToI32_of_lt {x b : Nat} (h : x < b) (hb : b ≤ 2 ^ 31 := by decide) : u32ToI32 x = (x : Int) := by
  have : x < 2147483648 := Nat.lt_of_lt_of_le h hb
  simp [u32ToI32, this]

-- The functions with a `u32 -> i32` cast are the model's on a 112-bit frame: there the value cast is made of a field of
-- at most nine bits (`far`, `sfar`), shifted by at most six.

theorem vertical_rate_eq (m : Msg) (L : Long m) : T.vertical_rate m = verticalRate m :=
  map_filter_congr (far L 69 70 78 (by decide)) _ <| by
    have h := u32ToI32_of_lt (shl_lt (b := 6) (Nat.lt_of_le_of_lt (Nat.sub_le _ 1) (field_lt m 70 78)))
    simp only [T.vertical_rate_value, h]

theorem altitude_delta_eq (m : Msg) (L : Long m) : T.altitude_delta m = altitudeDelta m :=
  map_filter_congr (far L 81 82 88 (by decide)) _ <| by
    simp only [T.delta, u32ToI32_of_lt (field_lt m 82 88), Int.neg_mul]

theorem roll_angle_5_0_eq (m : Msg) (L : Long m) : T.roll_angle_5_0 m = rollAngle50 m :=
  map_filter_congr (sfar L 33 34 35 43 (by decide)) _ <| by
    simp only [T.roll_angle, u32ToI32_of_lt (field_lt m 35 43)]

theorem track_angle_eq (s v : Nat) : T.track_angle s v = (if s = 0 then (v * 90) >>> 9 else (v * 90) >>> 9 + 180) := rfl
theorem magnetic_heading_eq (s v : Nat) : T.magnetic_heading s v = (if s = 0 then (v * 90) >>> 9 else (v * 90) >>> 9 + 180) := rfl
theorem track_angle_5_0_eq (m : Msg) : T.track_angle_5_0 m = trackAngle50 m := rfl

theorem track_angle_rate_5_0_eq (m : Msg) (L : Long m) : T.track_angle_rate_5_0 m = trackAngleRate50 m :=
  map_filter_congr (sfar L 67 68 69 77 (by decide)) _ <| by
    have h := u32ToI32_of_lt (Nat.lt_of_le_of_lt (Nat.shiftRight_le _ 8) (shl_lt (b := 3) (field_lt m 69 77)))
    simp only [T.track_angle_rate, h]

theorem ground_speed_5_0_eq (m : Msg) : T.ground_speed_5_0 m = groundSpeed50 m := rfl
theorem true_airspeed_5_0_eq (m : Msg) : T.true_airspeed_5_0 m = trueAirspeed50 m := rfl

theorem magnetic_heading_6_0_eq (m : Msg) : T.magnetic_heading_6_0 m = magneticHeading60 m := rfl
theorem indicated_airspeed_6_0_eq (m : Msg) : T.indicated_airspeed_6_0 m = indicatedAirspeed60 m := rfl

theorem barometric_altitude_rate_6_0_eq (m : Msg) (L : Long m) :
    T.barometric_altitude_rate_6_0 m = barometricAltitudeRate60 m :=
  map_filter_congr (sfar L 67 68 69 77 (by decide)) _ <| by
    simp [T.barometric_altitude_rate, u32ToI32_of_lt (field_lt m 69 77), Nat.shiftLeft_eq]

theorem internal_vertical_velocity_6_0_eq (m : Msg) (L : Long m) :
    T.internal_vertical_velocity_6_0 m = internalVerticalVelocity60 m :=
  map_filter_congr (sfar L 78 79 80 88 (by decide)) _ <| by
    simp only [T.internal_vertical_velocity, u32ToI32_of_lt (shl_lt (b := 5) (field_lt m 80 88))]

theorem wind_speed_eq (m : Msg) : T.wind_speed m = windSpeed44 m := rfl
theorem wind_direction_eq (m : Msg) : T.wind_direction m = windDirection44 m := rfl
theorem wind_4_4_eq (m : Msg) : T.wind_4_4 m = wind44 m := by
  unfold T.wind_4_4 wind44
  rw [wind_speed_eq, wind_direction_eq]
  cases windSpeed44 m <;> rfl
theorem turbulence_4_4_eq (m : Msg) : T.turbulence_4_4 m = turbulence44 m := rfl
theorem humidity_4_4_eq (m : Msg) : T.humidity_4_4 m = humidity44 m := rfl
theorem pressure_4_4_eq (m : Msg) : T.pressure_4_4 m = pressure44 m := rfl

theorem bds_eq (m : Msg) : T.bds m = bdsCode m := by
  unfold T.bds bdsCode
  -- a `match` with a guard on its first arm: the code tests the pattern, then the guard, and where the guard fails it tries
  -- the other arms again; the model tests pattern and guard as one condition and has the other arms once
  by_cases h1 : nib m 8 &&& 0xF = 1 ∧ nib m 9 &&& 0xF = 0
  · refine (if_pos h1).trans (ite_congr (propext ⟨fun h => ⟨h1.1, h1.2, h⟩, fun h => h.2.2⟩) (fun _ => rfl) fun _ => ?_)
    cases rangeValue m 48 54 <;> rfl
  · refine (if_neg h1).trans (Eq.trans ?_ (if_neg fun h => h1 ⟨h.1, h.2.1⟩).symm)
    cases rangeValue m 48 54 <;> rfl

def capToT (c : Capability) : T.Capability :=
  { flags := c.flags, bds20 := c.bds20, bds40 := c.bds40, bds44 := c.bds44, bds50 := c.bds50, bds60 := c.bds60 }
def bdsToT (b : Bds40) : T.SelectedVerticalIntention :=
  { mcp_selected_altitude := b.mcp, fms_selected_altitude := b.fms, barometric_pressure_setting := b.baro,
    target_altitude_source := b.source }
def bds50ToT (b : Bds50) : T.TrackAndTurn :=
  { roll_angle := b.roll, track_angle := b.track, track_angle_rate := b.rate, ground_speed := b.gs, true_airspeed := b.tas }

theorem is_bds_1_7_eq (m : Msg) : T.is_bds_1_7 m = (isBds17 m).map capToT := by
  unfold T.is_bds_1_7 isBds17 T.Capability.from_data
  cases flagAndRangeValue m 39 61 88 with
  | none => rfl
  | some v =>
    dsimp only
    rw [apply_ite (Option.map capToT)]
    refine ite_congr rfl (fun _ => rfl) fun _ => ?_
    cases rangeValue m 33 56 <;> rfl

theorem is_bds_4_0_eq (m : Msg) : T.is_bds_4_0 m = (isBds40 m).map bdsToT := by
  unfold T.is_bds_4_0 isBds40 T.SelectedVerticalIntention.from_data
  -- the validity tests: the code's `p = true ∧ ..`, `0 ≤ x ∧ x ≤ k` and the model's `p && ..`, `x ≤ k` are one normal form
  simp only [goodflags_eq, mcp_eq, fms_eq, baro_eq, tas_source_eq, Bool.or_eq_true, Bool.not_eq_true', Bool.not_eq_true,
    or_assoc, Nat.zero_le, true_and, apply_ite (Option.map bdsToT), Option.map_none, Option.map_some, bdsToT]

theorem is_bds_5_0_eq (m : Msg) (L : Long m) : T.is_bds_5_0 m = (isBds50 m).map bds50ToT := by
  unfold T.is_bds_5_0 isBds50 T.TrackAndTurn.from_data
  simp only [goodflags_eq, roll_angle_5_0_eq m L, track_angle_5_0_eq, track_angle_rate_5_0_eq m L,
    ground_speed_5_0_eq, true_airspeed_5_0_eq, Bool.or_eq_true, Bool.not_eq_true', Bool.not_eq_true, or_assoc,
    Nat.zero_le, true_and, apply_ite (Option.map bds50ToT), Option.map_none]
  refine ite_congr rfl (fun _ => rfl) fun _ => ?_
  -- the five values, whatever their range tests: all present, in the order the model looks at them, then the same test on
  -- the two speeds
  generalize (rollAngle50 m).filter _ = r
  generalize (trackAngle50 m).filter _ = t
  generalize (trackAngleRate50 m).filter _ = q
  generalize (groundSpeed50 m).filter _ = g
  generalize (trueAirspeed50 m).filter _ = a
  obtain _ | g := g
  · rfl
  obtain _ | a := a
  · rfl
  obtain _ | r := r
  · rfl
  obtain _ | t := t
  · rfl
  obtain _ | q := q
  · rfl
  dsimp only
  rw [apply_ite (Option.map bds50ToT)]
  exact ite_congr (propext decide_eq_true_iff) (fun _ => rfl) fun _ => rfl

theorem ais_eq (m : Msg) : T.ais m = ais m := by
  simp only [T.ais, ais, aisCodes, List.map_cons, List.map_nil, ia5_eq]

end Sq.Bridge
