/-
`reminder` (crc.rs) as the translator regenerates it (`T.reminder`, nested loops over a `Vec<u8>`): it returns 0 for every
vector of at least six digits, exactly as the hand-written model does (`Proofs/Reminder.lean`) - the loop stops four bytes
before the three bytes that are returned, and those were initialised to zero.  So the third filter of `get_message` lets every
vector of 14 / 28 digits through, in the code as in the model.
-/
import SqModel.Generated.TransBits
import SqModel.Proofs.Reminder

namespace Sq.Bridge
open Sq

theorem T_reminder_zero (m : Msg) (hl : 6 ≤ m.length) : T.reminder m = 0 := by
  unfold T.reminder nib
  simp only [Nat.sub_zero, List.drop_zero, Nat.zero_add]
  generalize hX : List.foldl _ _ _ = X
  have h : TailZero m.length X := by
    rw [← hX]
    refine loops_tail _ (init_tail m (fun x => (x &&& 0b1111) % 256) hl) fun i hi bs j hbs => ?_
    split
    · exact set4_tail _ _ hi _ _ _ _ _ hbs
    · exact hbs
  rw [h.last 3 (by decide), h.last 2 (by decide), h.last 1 (by decide)]
  rfl

end Sq.Bridge
