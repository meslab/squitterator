/-
The shape of a frame.  What `getMessage` returns is a vector of 14 or 28 hex digits; `Gated m` says so in the
specification's terms (nibbles, and the length the format asks for) and `Safe.Accepted m` in the model's (what the gate
hands on to the trap-freedom proofs).  `Long m` is a 112-bit frame: the two extractions on one with their bounds as one
argument (`far`, `sfar`), and what they yield (`Long.*`, for the trap-freedom proofs).
-/
import SqModel.Proofs.Bits
import SqModel.Spec.Crc
import SqModel.Model.Frame

namespace Sq
open Spec

theorem hexVal_lt {b v : Nat} (h : hexVal b = some v) : v < 16 := by
  unfold hexVal at h
  split at h
  · simp at h; omega
  · split at h
    · simp at h; omega
    · split at h
      · simp at h; omega
      · simp at h

theorem hexDigits_allNib (line : List Nat) : AllNib (hexDigits line) := by
  intro x hx
  unfold hexDigits at hx
  rw [List.mem_filterMap] at hx
  obtain ⟨b, _, hb⟩ := hx
  exact hexVal_lt hb

/-- the specification's `frameOf` is the model's `clean_squitter` on digits word for word: where a statement has `frameOf`, as the
    first conjunct of `C02.getMessage_iff`, that part compares the model with itself -/
theorem cleanDigits_eq_frameOf (d : Msg) : cleanDigits d = frameOf d := rfl

/-- so the length filter that follows `clean_squitter` in `get_message` never rejects -/
theorem cleanDigits_some {d m : Msg} (h : cleanDigits d = some m) : (m.length = 14 ∨ m.length = 28) ∧ ∃ k, m = d.drop k := by
  unfold cleanDigits at h
  split at h
  · cases h
    exact ⟨‹_›, 0, rfl⟩
  · split at h
    · cases h
      rw [List.length_drop]
      exact ⟨‹_ ∨ _›.imp (fun e => by rw [e]) (fun e => by rw [e]), 12, rfl⟩
    · cases h

theorem cleanDigits_allNib {d m : Msg} (hd : AllNib d) (h : cleanDigits d = some m) : AllNib m := by
  obtain ⟨_, k, rfl⟩ := cleanDigits_some h
  exact allNib_drop hd k

theorem lengthMatchesDF_iff (m : Msg) :
    lengthMatchesDF m = true ↔
      ∃ df, getDownlinkFormat m = some df ∧ ((df ≤ 15 ∧ m.length = 14) ∨ (16 ≤ df ∧ m.length = 28)) := by
  unfold lengthMatchesDF
  cases getDownlinkFormat m with
  | none => simp
  | some df => by_cases h : df ≤ 15 <;> simp [h] <;> omega

theorem messageOfDigits_eq_some_iff {d m : Msg} :
    messageOfDigits d = some m ↔
      cleanDigits d = some m ∧ (m.length = 14 ∨ m.length = 28) ∧ lengthMatchesDF m = true
        ∧ reminder m = 0 ∧ parityOk m = true := by
  simp only [messageOfDigits, Option.filter_eq_some_iff, Bool.or_eq_true, beq_iff_eq, and_assoc]

theorem getMessage_allNib {line : List Nat} {m : Msg} (h : getMessage line = some m) : AllNib m :=
  cleanDigits_allNib (hexDigits_allNib line) (messageOfDigits_eq_some_iff.mp h).1

theorem getMessage_length {line : List Nat} {m : Msg} (h : getMessage line = some m) :
    m.length = 14 ∨ m.length = 28 := (messageOfDigits_eq_some_iff.mp h).2.1

theorem getDownlinkFormat_eq (m : Msg) (h : AllNib m) (hl : 2 ≤ m.length) :
    getDownlinkFormat m = some (Spec.df m) :=
  rangeValue_eq_field m h 1 5 (by decide) (by decide) (by omega)

theorem lengthMatchesDF_eq (m : Msg) (h : AllNib m) (hl : 2 ≤ m.length) :
    lengthMatchesDF m = Spec.lengthMatchesDF m := by
  unfold lengthMatchesDF Spec.lengthMatchesDF
  rw [getDownlinkFormat_eq m h hl]
  by_cases hd : Spec.df m ≤ 15 <;> simp [hd, Nat.lt_succ_iff, Nat.succ_le_iff] <;> omega

structure Gated (m : Msg) : Prop where
  nib : AllNib m
  len : (Spec.df m < 16 ∧ m.length = 14) ∨ (16 ≤ Spec.df m ∧ m.length = 28)

theorem Gated.length {m : Msg} (g : Gated m) : m.length = 14 ∨ m.length = 28 :=
  g.len.imp And.right And.right

theorem gated_of_lengthMatches (m : Msg) (h : AllNib m) (hg : Spec.lengthMatchesDF m = true) : Gated m :=
  ⟨h, by simpa [Spec.lengthMatchesDF] using hg⟩

structure Long (m : Msg) : Prop where
  nib : AllNib m
  len : m.length = 28

variable {m : Msg}

/-- the two extractions on a long frame; where the positions are literals the bounds are `by decide` -/
theorem far (L : Long m) (f sb eb : Nat) (h : 1 ≤ f ∧ f ≤ 112 ∧ 1 ≤ sb ∧ sb ≤ eb ∧ eb ≤ 112) :
    flagAndRangeValue m f sb eb = some (field m f f, field m sb eb) :=
  flagAndRangeValue_eq m L.nib f sb eb h.1 (L.len ▸ h.2.1) h.2.2.1 h.2.2.2.1 (L.len ▸ h.2.2.2.2)

theorem sfar (L : Long m) (s f sb eb : Nat) (h : (1 ≤ s ∧ s ≤ 112) ∧ 1 ≤ f ∧ f ≤ 112 ∧ 1 ≤ sb ∧ sb ≤ eb ∧ eb ≤ 112) :
    statusFlagAndRangeValue m s f sb eb = some (field m s s, field m f f, field m sb eb) :=
  statusFlagAndRangeValue_eq m L.nib s f sb eb h.1.1 (L.len ▸ h.1.2) h.2.1 (L.len ▸ h.2.2.1) h.2.2.2.1 h.2.2.2.2.1
    (L.len ▸ h.2.2.2.2.2)

theorem Long.pos (L : Long m) {p : Nat} (h : 1 ≤ p ∧ p ≤ 112 := by decide) : 1 ≤ p ∧ p ≤ 4 * m.length :=
  L.len ▸ h

theorem Long.digit (L : Long m) {i : Nat} (h : i < 28 := by decide) : i < m.length :=
  L.len ▸ h

theorem Long.frv_lt (L : Long m) {f sb eb : Nat} {x : Nat × Nat} (h : flagAndRangeValue m f sb eb = some x)
    (hb : 1 ≤ f ∧ f ≤ 112 ∧ 1 ≤ sb ∧ sb ≤ eb ∧ eb ≤ 112 := by decide) : x.1 < 2 ∧ x.2 < 2 ^ (eb + 1 - sb) := by
  cases (far L f sb eb hb).symm.trans h
  exact ⟨field_bit_lt m f, field_lt m sb eb⟩

/-- the `filter`: every decoder keeps a `(status, flag, field)` extraction only when the status bit is set -/
theorem Long.sfrv_lt (L : Long m) {s f sb eb : Nat} {p : Nat × Nat × Nat → Bool} {x : Nat × Nat × Nat}
    (h : (statusFlagAndRangeValue m s f sb eb).filter p = some x)
    (hb : 1 ≤ f ∧ f ≤ 112 ∧ 1 ≤ sb ∧ sb ≤ eb ∧ eb ≤ 112 := by decide) : x.2.1 < 2 ∧ x.2.2 < 2 ^ (eb + 1 - sb) := by
  obtain ⟨fv, hfv, rfl⟩ := Option.map_eq_some_iff.1 (Option.eq_some_of_filter_eq_some h)
  exact L.frv_lt hfv hb

end Sq

namespace Sq.Safe
open Spec

/-- what the gate hands on: nibbles, and the length the format needs -/
structure Accepted (m : Msg) : Prop where
  nib : AllNib m
  fits : ∃ df, getDownlinkFormat m = some df ∧ ((df ≤ 15 ∧ m.length = 14) ∨ (16 ≤ df ∧ m.length = 28))

theorem Accepted.of_digits {d m : Msg} (hd : AllNib d) (h : messageOfDigits d = some m) : Accepted m :=
  let ⟨hc, _, hfit, _⟩ := messageOfDigits_eq_some_iff.mp h
  ⟨cleanDigits_allNib hd hc, (lengthMatchesDF_iff m).1 hfit⟩

theorem Accepted.long {m : Msg} (A : Accepted m) {df : Nat} (h : getDownlinkFormat m = some df) (h16 : 16 ≤ df) : Long m := by
  obtain ⟨d, hd, hf⟩ := A.fits
  cases hd.symm.trans h
  exact ⟨A.nib, (hf.resolve_left fun h => absurd (Nat.le_trans h16 h.1) (by decide)).2⟩

/-- the formats whose frames `Plane::update` reads as long ones -/
theorem Accepted.longU {m : Msg} (A : Accepted m) {df : Nat} (h : getDownlinkFormat m = some df)
    (hd : df = 17 ∨ df = 18 ∨ df = 20 ∨ df = 21) : Long m :=
  A.long h (by rcases hd with rfl | rfl | rfl | rfl <;> decide)

theorem Accepted.le_length {m : Msg} (A : Accepted m) : 14 ≤ m.length := by
  obtain ⟨_, _, hf⟩ := A.fits; omega

end Sq.Safe
