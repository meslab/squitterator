/-
Row life time: last-contact stamps, the sweep schedule and what a sweep keeps.
-/
import SqModel.Proofs.Table
import SqModel.Proofs.Frame

namespace Sq

theorem own_row_timestamp {env : Env} {cfg : DecodeCfg} {now : Int} {t : Table} {dl : DFRec} {m : Msg}
    {df icao : Nat} {q : Plane} (h : Table.lookup (updateAircraft env cfg now t dl m df icao) icao = some q) :
    q.timestamp = now := by
  rw [lookup_updateAircraft_same] at h
  cases h
  cases Table.lookup t icao
  · exact fromDownlink_timestamp ..
  · exact applyFrame_timestamp ..

theorem stepCount_le (c : Nat) (h : c ≤ 11) : stepCount c ≤ 11 := by
  unfold stepCount; split <;> omega

/-- sweeps are 11 frames apart -/
theorem sweep_period (c : Nat) (h : c > 10) :
    iter stepCount 11 c = 11 ∧ ∀ j, 1 ≤ j → j < 11 → iter stepCount j c ≤ 10 := by
  -- the frame that sweeps sets the counter to 1, and from 1 it counts the frames up to 11
  have h1 : ∀ k, iter stepCount (k + 1) c = iter stepCount k 1 := fun k => congrArg (iter stepCount k) (if_pos h)
  have h2 : ∀ k : Fin 11, iter stepCount k.val 1 = k.val + 1 := by decide +kernel
  refine ⟨(h1 10).trans (h2 10), fun j hj1 hj2 => ?_⟩
  obtain ⟨k, rfl⟩ := Nat.exists_eq_succ_of_ne_zero (Nat.ne_of_gt hj1)
  rw [h1, h2 ⟨k, Nat.lt_of_succ_lt hj2⟩]
  exact Nat.le_of_lt_succ hj2

/-- what the table is after an accepted frame that triggers the sweep: exactly the rows (the
    frame's own row included) whose last contact is fewer than `delete_after` whole seconds ago -/
theorem sweep_exact (env : Env) (cfg : DecodeCfg) (now : Int) (s : RState) (line : List Nat)
    (m : Msg) (df icao : Nat) (h : acceptedFrame cfg line = some (m, df, icao)) (hs : s.cleanupCount > 10) :
    ∃ dl, (stepLine env cfg now s line).table
      = (updateAircraft env cfg now s.table dl m df icao).filter
          (fun kp => numSeconds now kp.2.timestamp < cfg.deleteAfter) := by
  obtain ⟨dl, _, he⟩ := stepLine_accepted_eq env cfg now s line m df icao h
  exact ⟨dl, by rw [he, cleanup_table, if_pos hs]⟩

/-- without a due sweep nothing is removed -/
theorem no_sweep_keeps (env : Env) (cfg : DecodeCfg) (now : Int) (s : RState) (line : List Nat)
    (m : Msg) (df icao : Nat) (h : acceptedFrame cfg line = some (m, df, icao)) (hs : ¬ s.cleanupCount > 10) :
    ∃ dl, (stepLine env cfg now s line).table = updateAircraft env cfg now s.table dl m df icao := by
  obtain ⟨dl, _, he⟩ := stepLine_accepted_eq env cfg now s line m df icao h
  exact ⟨dl, by rw [he, cleanup_table, if_neg hs]⟩

theorem numSeconds_self (t : Int) : numSeconds t t = 0 := by unfold numSeconds; simp

theorem numSeconds_nonneg {now t : Int} (h : t ≤ now) : 0 ≤ numSeconds now t := by
  unfold numSeconds; exact Int.tdiv_nonneg (Int.sub_nonneg_of_le h) (by decide)

theorem own_row_after (env : Env) (cfg : DecodeCfg) (now : Int) (s : RState) (line : List Nat)
    (m : Msg) (df icao : Nat) (h : acceptedFrame cfg line = some (m, df, icao)) (hnd : s.table.keys.Nodup)
    (hpos : 0 < cfg.deleteAfter) :
    ∃ dl, DFRec.fromMessage env m = some dl ∧
      Table.lookup (stepLine env cfg now s line).table icao
        = some (match Table.lookup s.table icao with
                | some p => applyFrame env cfg now p dl m df
                | none => Plane.fromDownlink env now dl icao) := by
  obtain ⟨dl, hdl, hl⟩ := lookup_stepLine_accepted env cfg now s line m df icao h hnd
  refine ⟨dl, hdl, ?_⟩
  have hq := lookup_updateAircraft_same env cfg now s.table dl m df icao
  rw [hl, hq]
  exact Option.filter_some_pos (decide_eq_true fun _ => by rwa [own_row_timestamp hq, numSeconds_self])

/-- the row of `a` is there and heard recently; the third conjunct (the clock is not behind the stamp) is what lets a row
    stamped anew count as heard, whatever the truncation of `numSeconds` does to a negative age -/
def Heard (cfg : DecodeCfg) (now : Int) (a : Nat) (t : Table) : Prop :=
  ∃ q, Table.lookup t a = some q ∧ numSeconds now q.timestamp < cfg.deleteAfter ∧ q.timestamp ≤ now

theorem Heard.updateAircraft {cfg : DecodeCfg} {now : Int} {a : Nat} {t : Table} (h : Heard cfg now a t)
    (env : Env) (dl : DFRec) (m : Msg) (df icao : Nat) : Heard cfg now a (updateAircraft env cfg now t dl m df icao) := by
  obtain ⟨p, hp, hage, hclock⟩ := h
  by_cases ha : a = icao
  · subst ha
    have hq := lookup_updateAircraft_same env cfg now t dl m df a
    refine ⟨_, hq, ?_, Int.le_of_eq (own_row_timestamp hq)⟩
    rw [own_row_timestamp hq, numSeconds_self]
    exact Int.lt_of_le_of_lt (numSeconds_nonneg hclock) hage
  · exact ⟨p, (lookup_updateAircraft_other _ _ _ _ _ _ _ _ _ ha).trans hp, hage, hclock⟩

theorem Heard.cleanup {cfg : DecodeCfg} {now : Int} {a : Nat} {s : RState} (h : Heard cfg now a s.table)
    (hnd : s.table.keys.Nodup) : Heard cfg now a (cleanup cfg now s).table :=
  let ⟨q, hq, hage, hclock⟩ := h
  ⟨q, by rw [lookup_cleanup _ _ _ a hnd, hq]; exact Option.filter_some_pos (decide_eq_true fun _ => hage), hage, hclock⟩

theorem heard_step (env : Env) (cfg : DecodeCfg) (now : Int) (s : RState) (line : List Nat) (a : Nat)
    (hnd : s.table.keys.Nodup) (h : Heard cfg now a s.table) : Heard cfg now a (stepLine env cfg now s line).table :=
  stepLine_cases (P := fun r => Heard cfg now a r.table) env cfg now s line (fun _ => h) fun m df icao dl _ _ =>
    (h.updateAircraft env dl m df icao).cleanup (nodup_updateAircraft env cfg now s.table dl m df icao hnd)

theorem heard_foldl (env : Env) (cfg : DecodeCfg) (now : Int) (lines : List (List Nat)) (s : RState) (a : Nat)
    (hnd : s.table.keys.Nodup) (h : Heard cfg now a s.table) :
    Heard cfg now a (lines.foldl (stepLine env cfg now) s).table := by
  induction lines generalizing s with
  | nil => exact h
  | cons l ls ih => exact ih _ (nodup_stepLine env cfg now s l hnd) (heard_step env cfg now s l a hnd h)

/-- an aircraft heard fewer than `delete_after` whole seconds ago is still in the table after any
    accepted frame of any aircraft, sweep or not -/
theorem never_removed_while_heard (env : Env) (cfg : DecodeCfg) (now : Int) (s : RState) (line : List Nat)
    (m : Msg) (df icao a : Nat) (p : Plane) (h : acceptedFrame cfg line = some (m, df, icao))
    (hnd : s.table.keys.Nodup) (hp : Table.lookup s.table a = some p)
    (hage : numSeconds now p.timestamp < cfg.deleteAfter) (hclock : p.timestamp ≤ now) :
    ∃ q, Table.lookup (stepLine env cfg now s line).table a = some q :=
  let ⟨q, hq, _⟩ := heard_step env cfg now s line a hnd ⟨p, hp, hage, hclock⟩
  ⟨q, hq⟩

end Sq
