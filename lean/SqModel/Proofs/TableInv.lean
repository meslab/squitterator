/-
The invariants under which one iteration of the reader loop is trap-free (`Safe.read_lines_step_safe`: every row's altitude
is below 100 000, no DF counted 2^31-1 times, sweep counter <= 11) hold in every state the loop can reach.  Proved on the
hand-written model (`stepLine`), which the translated loop body simulates (`Bridge.read_lines_step_sim`), and carried
over: `no_trap_run` - a whole run of the reader over fewer than 2^31-1 lines, each at its own time, never reaches a state in
which the translated per-line code can trap.
-/
import SqModel.Proofs.Safe
import SqModel.Proofs.BridgeTable
import SqModel.Proofs.Table
import SqModel.Proofs.Frame

namespace Sq.Safe
open Sq Sq.Bridge

def MAltOK (p : Plane) : Prop := ∀ a, p.altitude = some a → a < 100000
def OptAltOK (o : Option Nat) : Prop := ∀ a, o = some a → a < 100000
def MTableOK (t : Table) : Prop := ∀ kp ∈ t, MAltOK kp.2

/-- `MAltOK q` unfolds to `OptAltOK q.altitude`, and the field of a record update reduces to what was assigned: where a row is
    given as an update, an `OptAltOK` fact about the assigned value is accepted for it as it stands -/
theorem maltOK_of_eq {o : Option Nat} {q : Plane} (h : q.altitude = o) (ho : OptAltOK o) : MAltOK q := fun a ha => ho a (h ▸ ha)

def RecOK : DFRec → Prop
  | .srt v => OptAltOK v.altitude
  | .ext v => OptAltOK v.altitude
  | .mds _ => True

theorem srt_fromMessage_ok (m : Msg) : OptAltOK (Srt.fromMessage m).altitude := by
  cases h : getDownlinkFormat m with
  | none => unfold Srt.fromMessage; rw [h]; exact not_none
  | some df => rw [srt_fromMessage m df h]; exact ite_ind OptAltOK (sqAltitude_lt m df) not_none

theorem rec_fromMessage_ok (env : Env) (m : Msg) (dl : DFRec) (h : DFRec.fromMessage env m = some dl) : RecOK dl := by
  unfold DFRec.fromMessage at h
  split at h
  · cases h
  · -- the four arms, without a case split on the format
    revert h
    refine ite_ind (· = some dl → RecOK dl) ?_ (ite_ind (· = some dl → RecOK dl) ?_ (ite_ind (· = some dl → RecOK dl) ?_ ?_)) <;>
      intro h <;> cases h
    exacts [srt_fromMessage_ok m, ext_fromMessage_alt env m, trivial, not_none]

theorem amendSrt_ok (p : Plane) (dl : Srt) (hp : MAltOK p) (hd : OptAltOK dl.altitude) : MAltOK (p.amendSrt dl) :=
  ite_ind MAltOK (ite_ind OptAltOK hd hp) hp

/-- of the type-code classes only the two position classes assign the altitude, under `storeCpr`, which leaves it alone -/
theorem amendExt_ok (env : Env) (p : Plane) (dl : Ext) (hp : MAltOK p) (hd : OptAltOK dl.altitude) : MAltOK (p.amendExt env dl) := by
  refine ite_ind MAltOK ?_ hp
  rw [Plane.amendExtTc_eq]
  cases tcClass _
  case surface | airborne => exact maltOK_of_eq (storeCpr_altitude ..) hd
  all_goals exact hp

theorem updateFromDownlink_ok (env : Env) (now : Int) (p : Plane) (dl : DFRec) (hp : MAltOK p) (hd : RecOK dl) :
    MAltOK (p.updateFromDownlink env now dl) := by
  cases dl with
  | srt v => exact amendSrt_ok _ v hp hd
  | ext v => exact amendExt_ok env _ v hp hd
  | mds i => exact hp

theorem updateFromExt_ok (env : Env) (p : Plane) (m : Msg) (df : Nat) (hp : MAltOK p) : MAltOK (p.updateFromExt env m df) := by
  unfold Plane.updateFromExt
  rw [Plane.updateExtTc_eq]
  cases tcClass _
  case surface => exact maltOK_of_eq (storeCpr_altitude ..) not_none
  case airborne => exact maltOK_of_eq (storeCpr_altitude ..) (sqAltitude_lt m df)
  all_goals exact hp

/-- the Comm-B stages assign none of the fields `eraseModeS` leaves alone -/
theorem updateFromModeS_alt (p : Plane) (m : Msg) (r : Bool) : (p.updateFromModeS m r).altitude = p.altitude :=
  of_erase (eraseModeS_updateFromModeS p m r) fun _ => rfl

theorem update_ok (env : Env) (now : Int) (p : Plane) (m : Msg) (df : Nat) (r : Bool) (hp : MAltOK p) : MAltOK (p.update env now m df r) := by
  have h1 : MAltOK (Plane.updateFromBcast { p with timestamp := now, lastDf := df } m df) :=
    ite_ind OptAltOK (sqAltitude_lt m df) hp
  have h2 := ite_ind MAltOK (c := df = 17 ∨ df = 18) (updateFromExt_ok env _ m df h1) h1
  exact ite_ind MAltOK (maltOK_of_eq (updateFromModeS_alt _ m r) h2) h2

theorem updateAircraft_ok (env : Env) (cfg : DecodeCfg) (now : Int) (t : Table) (dl : DFRec) (m : Msg) (df icao : Nat)
    (ht : MTableOK t) (hd : RecOK dl) : MTableOK (updateAircraft env cfg now t dl m df icao) := by
  refine ite_ind MTableOK (fun kp hkp => ?_) fun kp hkp => ?_
  · obtain ⟨q, hq, rfl⟩ := List.mem_map.1 hkp
    exact ite_ind (MAltOK ∘ Prod.snd)
      (ite_ind MAltOK (updateFromDownlink_ok env now q.2 dl (ht q hq) hd) (update_ok env now q.2 m df _ (ht q hq))) (ht q hq)
  · rcases List.mem_append.1 hkp with h | h
    · exact ht kp h
    · cases List.mem_singleton.1 h
      exact updateFromDownlink_ok env now _ dl nofun hd

abbrev CountsLe (n : Nat) (l : List (Nat × Int)) : Prop := ∀ kc ∈ l, 0 ≤ kc.2 ∧ kc.2 ≤ (n : Int)

/-- the counters after `n` lines: no count above `n`, the sweep counter at most 11 -/
def MCountOK (n : Nat) (s : RState) : Prop := (∀ kc ∈ s.dfCount, 0 ≤ kc.2 ∧ kc.2 ≤ (n : Int)) ∧ s.cleanupCount ≤ 11

theorem bumpCount_ok (l : List (Nat × Int)) (df n : Nat) (h : ∀ kc ∈ l, 0 ≤ kc.2 ∧ kc.2 ≤ (n : Int)) :
    ∀ kc ∈ bumpCount l df, 0 ≤ kc.2 ∧ kc.2 ≤ ((n + 1 : Nat) : Int) := by
  have up (c : Int) (hc : 0 ≤ c ∧ c ≤ (n : Int)) :
      (0 ≤ c ∧ c ≤ ((n + 1 : Nat) : Int)) ∧ (0 ≤ c + 1 ∧ c + 1 ≤ ((n + 1 : Nat) : Int)) := by omega
  have new := (up 0 ⟨Int.le_refl 0, Int.natCast_nonneg n⟩).2
  induction l with
  | nil => exact List.forall_mem_cons.2 ⟨new, nofun⟩
  | cons x rest ih =>
    obtain ⟨hx, hr⟩ := List.forall_mem_cons.1 h
    have rest_up : CountsLe (n + 1) rest := fun kc hkc => (up kc.2 (hr kc hkc)).1
    unfold bumpCount
    exact ite_ind (CountsLe (n + 1)) (List.forall_mem_cons.2 ⟨new, List.forall_mem_cons.2 ⟨(up x.2 hx).1, rest_up⟩⟩)
      (ite_ind (CountsLe (n + 1)) (List.forall_mem_cons.2 ⟨(up x.2 hx).2, rest_up⟩) (List.forall_mem_cons.2 ⟨(up x.2 hx).1, ih hr⟩))

theorem cleanup_ok (cfg : DecodeCfg) (now : Int) (s : RState) (n : Nat) (ht : MTableOK s.table) (hc : MCountOK n s) :
    MTableOK (cleanup cfg now s).table ∧ MCountOK n (cleanup cfg now s) := by
  unfold cleanup
  split
  · exact ⟨fun kp h => ht kp (List.mem_filter.1 h).1, hc.1, (by decide : 0 + 1 ≤ 11)⟩
  · next h => exact ⟨ht, hc.1, Nat.succ_le_of_lt (Nat.lt_of_not_ge h)⟩

theorem stepLine_ok (env : Env) (cfg : DecodeCfg) (now : Int) (s : RState) (line : List Nat) (n : Nat)
    (ht : MTableOK s.table) (hc : MCountOK n s) :
    MTableOK (stepLine env cfg now s line).table ∧ MCountOK (n + 1) (stepLine env cfg now s line) := by
  have mono : CountsLe (n + 1) s.dfCount := fun kc hkc => by have := hc.1 kc hkc; omega
  exact stepLine_cases (P := fun r => MTableOK r.table ∧ MCountOK (n + 1) r) env cfg now s line (fun _ => ⟨ht, mono, hc.2⟩)
    fun _ _ _ dl _ hdl =>
      cleanup_ok cfg now _ (n + 1) (updateAircraft_ok env cfg now s.table dl _ _ _ ht (rec_fromMessage_ok env _ dl hdl))
        ⟨ite_ind (CountsLe (n + 1)) (bumpCount_ok s.dfCount _ n hc.1) mono, hc.2⟩

theorem tableOK_of_model (t : Table) (h : MTableOK t) : TableOK (tableToT t) := fun _ hkv =>
  let ⟨kp, hkp, e⟩ := List.mem_map.1 hkv
  e ▸ h kp hkp

theorem countOK_of_model (n : Nat) (s : RState) (ts : Int) (h : MCountOK n s) (hn : n + 1 < 2147483648) : CountOK (countersToT s ts) :=
  ⟨fun kc hkc => by have := h.1 kc hkc; omega, h.2⟩

def asciiOfDigit (d : Nat) : Nat := if d < 10 then 48 + d else 55 + d
/-- a line of characters as the ASCII line with the same hexadecimal digits (all that `get_message` reads of a line) -/
def lineOfChars (cs : List Char) : List Nat := (cs.filterMap charToDigit16).map asciiOfDigit

theorem hexVal_ascii : ∀ d < 16, hexVal (asciiOfDigit d) = some d := by decide

theorem hexDigits_lineOfChars (cs : List Char) : hexDigits (lineOfChars cs) = cs.filterMap charToDigit16 := by
  unfold hexDigits lineOfChars
  rw [List.filterMap_map]
  refine (filterMap_congr fun d hd => ?_).trans List.filterMap_some
  obtain ⟨c, _, hc⟩ := List.mem_filterMap.1 hd
  exact hexVal_ascii d (hexVal_lt (charToDigit16_eq c ▸ hc))

/-- the gate on any line of characters (whatever the lossy UTF-8 decoding produced) is the model's gate on the ASCII line
    with the same digits -/
theorem get_message_chars (cs : List Char) : T.get_message cs = getMessage (lineOfChars cs) := by
  rw [get_message_eq]; unfold getMessage; rw [hexDigits_lineOfChars]

/-- a run of the reader: each line (as characters) with the time at which it is processed -/
abbrev Run := List (Int × List Char)

def modelRun (env : Env) (cfg : DecodeCfg) (s : RState) (r : Run) : RState :=
  r.foldl (fun s nl => stepLine env cfg nl.1 s (lineOfChars nl.2)) s

def codeRun (te : TEnv) (a : T.Args) (st : T.Planes × T.AppCounters) (r : Run) : T.Planes × T.AppCounters :=
  r.foldl (fun st nl => T.read_lines_step nl.1 te nl.2 a st.1 st.2) st

/-- the translated loop, line after line at varying times, is the model's (`read_lines_fold_sim` with a clock, for lines of
    arbitrary characters) -/
theorem run_sim (te : TEnv) (a : T.Args) (ts : Int) (r : Run) (s : RState) :
    codeRun te a (tableToT s.table, countersToT s ts) r
      = (tableToT (modelRun (envOfT te) (cfgOfArgs a) s r).table, countersToT (modelRun (envOfT te) (cfgOfArgs a) s r) ts) :=
  List.foldl_hom (fun s : RState => (tableToT s.table, countersToT s ts)) fun s nl =>
    read_lines_step_sim nl.1 te nl.2 (lineOfChars nl.2) a s ts (get_message_chars nl.2)

theorem modelRun_ok (env : Env) (cfg : DecodeCfg) (r : Run) (s : RState) (n : Nat) (ht : MTableOK s.table) (hc : MCountOK n s) :
    MTableOK (modelRun env cfg s r).table ∧ MCountOK (n + r.length) (modelRun env cfg s r) := by
  induction r generalizing s n with
  | nil => exact ⟨ht, hc⟩
  | cons nl rest ih =>
    obtain ⟨h1, h2⟩ := stepLine_ok env cfg nl.1 s (lineOfChars nl.2) n ht hc
    rw [List.length_cons, Nat.add_comm rest.length, ← Nat.add_assoc]
    exact ih _ (n + 1) h1 h2

/-- **Every state the reader loop reaches is one in which the next line cannot trap.**  For a run `r` of lines of arbitrary
    characters, each at its own time, started on a table whose rows are admissible (the empty table of a fresh start, or what
    an earlier `read_lines` call left behind) with fresh counters, and any next line: the translated loop body meets all its
    trap-freedom obligations in the state the run ends in - provided fewer than 2^31 - 1 lines were processed (the DF counters
    are `i32`: the 2^31-th frame of one format does overflow `+= 1`, see DESIGN 14.9). -/
theorem no_trap_run (te : TEnv) (a : T.Args) (ts : Int) (r : Run)
    (hlen : r.length + 1 < 2147483648) (s0 : RState) (h0 : MTableOK s0.table) (hc0 : MCountOK 0 s0)
    (now : Int) (next : List Char) :
    T.read_lines_step.safe now te next a (codeRun te a (tableToT s0.table, countersToT s0 ts) r).1
      (codeRun te a (tableToT s0.table, countersToT s0 ts) r).2 := by
  rw [run_sim te a ts r s0]
  obtain ⟨h1, h2⟩ := modelRun_ok (envOfT te) (cfgOfArgs a) r s0 0 h0 hc0
  exact read_lines_step_safe now te next a _ _ (tableOK_of_model _ h1) (countOK_of_model _ _ ts h2 (Nat.zero_add _ ▸ hlen))

/-- the start of the program: empty table, fresh counters -/
theorem fresh_ok : MTableOK ({} : RState).table ∧ MCountOK 0 ({} : RState) :=
  ⟨fun _ h => (nomatch h), fun _ h => (nomatch h), by decide⟩

end Sq.Safe
