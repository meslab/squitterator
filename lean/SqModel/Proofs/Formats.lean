/-
The per-format erasers (`eraseX (applyFrame .. p ..) = eraseX p` says: outside X the row is untouched;
the theorems are C11's), and what one frame does to a row on the two update paths, in one form:
for an extended squitter both paths run the same per-class body `extArm` on a row whose header
fields are set - they differ in the header fields, in the address check of the default path, and in
the track mark a surface frame leaves.  Then the two tables the class theorems of C11 are instances of:
`short_touches` (by downlink format, eraser `eraseShort df`) and `ext_touches` (by type-code class, eraser `eraseClass k`).
-/
import SqModel.Proofs.Frame

namespace Sq

/-- book-keeping every frame touches: last contact, last DF -/
def eraseStamp (p : Plane) : Plane := { p with timestamp := 0, lastDf := 0 }
/-- DF17 header effects: last type code, CA -/
def eraseHead (p : Plane) : Plane := { eraseStamp p with lastTypeCode := 0, cap0 := 0 }

def eraseAlt (p : Plane) : Plane := { eraseStamp p with altitude := none, altitudeSource := ' ' }
def eraseSquawk (p : Plane) : Plane := { eraseStamp p with squawk := none }
def eraseCap (p : Plane) : Plane := { eraseStamp p with cap0 := 0 }
def eraseIdent (p : Plane) : Plane := { eraseHead p with ais := none, category := (0, 0) }
def eraseSurface (p : Plane) : Plane :=
  erasePos { eraseHead p with groundMovement := none, altitude := none, altitudeSource := ' ', track := none, trackSource := ' ' }
def eraseAirpos (p : Plane) : Plane :=
  erasePos { eraseHead p with altitude := none, altitudeSource := ' ', surveillanceStatus := ' ' }
def eraseVelocity (p : Plane) : Plane :=
  { eraseHead p with vrate := none, vrateSource := ' ', altitudeGnss := none, track := none, grspeed := none,
                     trackSource := ' ', heading := none, headingSource := ' ', altitudeSource := ' ' }
def eraseGnss (p : Plane) : Plane := { eraseHead p with altitudeGnss := none, surveillanceStatus := ' ' }
def eraseVersion (p : Plane) : Plane := { eraseHead p with adsbVersion := none }
def eraseCommB (p : Plane) : Plane := eraseModeS { eraseStamp p with altitude := none, altitudeSource := ' ', squawk := none }

/- These erasers are nested (`eraseIdent` is written over `eraseHead`, that over `eraseStamp`): an equation between
   rows under them is closed by `delta <the erasers>; rfl`, for the reason given at the head of Frame.lean. -/

theorem update_short (env : Env) (now : Int) (p : Plane) (m : Msg) (df : Nat) (r : Bool)
    (h : df ≠ 17 ∧ df ≠ 18 ∧ df ≠ 20 ∧ df ≠ 21) :
    p.update env now m df r = Plane.updateFromBcast { p with timestamp := now, lastDf := df } m df := by
  rw [Plane.update_eq, Plane.extStep_ne ⟨h.1, h.2.1⟩, Plane.commBStep_ne h.2.2]

/-- what an extended squitter of each class does to a row whose header fields are set; `mark` is the
    track mark a surface frame leaves -/
def extArm (env : Env) (m : Msg) (mark : Char) (q : Plane) : Plane :=
  match tcClass (getMessageType m).1 with
  | .ident => q.updateExt14 m (getMessageType m).1 (getMessageType m).2
  | .surface => ({ q with groundMovement := groundMovement m, altitude := none, altitudeSource := chSup0,
                          track := groundTrack m, trackSource := mark }).storeCpr env (getMessageType m).1 (cpr m)
  | .airborne => ({ q with altitude := altitude m 17, altitudeSource := ' ',
                           surveillanceStatus := surveillanceStatus m }).storeCpr env (getMessageType m).1 (cpr m)
  | .velocity => q.updateExt19 env m (getMessageType m).2
  | .gnss => q.updateExt2022 m
  | .status => q.updateExt31 m
  | .other => q

theorem ext_fromMessage_head (env : Env) (m : Msg) (df : Nat) (h : getDownlinkFormat m = some df) :
    (Ext.fromMessage env m).icao = getIcao m df ∧ (Ext.fromMessage env m).capability = getCapability m
    ∧ (Ext.fromMessage env m).messageType = getMessageType m := by
  rw [ext_fromMessage env m df h]
  cases tcClass (getMessageType m).1 <;> exact ⟨rfl, rfl, rfl⟩

theorem amendExtTc_fromMessage (env : Env) (m : Msg) (h : getDownlinkFormat m = some 17) (q : Plane) :
    q.amendExtTc env (Ext.fromMessage env m) = extArm env m chSup0 q := by
  rw [Plane.amendExtTc_eq, (ext_fromMessage_head env m 17 h).2.2, ext_fromMessage env m 17 h]
  unfold extArm
  cases tcClass (getMessageType m).1
  case velocity =>
    -- the record's fields and the row update test the subtype alike
    unfold Plane.amendExt19 Plane.updateExt19 extHead
    generalize (getMessageType m).2 = st
    simp only [ite_then_ite]
  all_goals rfl

theorem updateExtTc_17 (env : Env) (m : Msg) (q : Plane) :
    q.updateExtTc env m 17 (getMessageType m).1 (getMessageType m).2 = extArm env m ' ' q := by
  rw [Plane.updateExtTc_eq]
  unfold extArm Plane.updateExt58 Plane.updateExt918
  rw [cprChecked_eq]
  rfl

theorem amendExt_fromMessage (env : Env) (m : Msg) (h : getDownlinkFormat m = some 17) (q : Plane) :
    q.amendExt env (Ext.fromMessage env m) =
      if (getIcao m 17).isSome then
        extArm env m chSup0 { q with lastTypeCode := (getMessageType m).1, cap0 := getCapability m }
      else q := by
  obtain ⟨hi, hc, ht⟩ := ext_fromMessage_head env m 17 h
  unfold Plane.amendExt
  rw [hi, hc, ht, amendExtTc_fromMessage env m h]

theorem fromDownlink_ext (env : Env) (now : Int) (v : Ext) (icao : Nat) :
    Plane.fromDownlink env now (.ext v) icao
      = Plane.amendExt env { Plane.new now with icao := icao, reg := (icaoToCountry icao).2 } v := rfl

/-- **an extended squitter, both paths**: -U stamps the format and leaves no surface track mark; the
    default path does nothing but the time stamp when the address field is zero -/
theorem applyFrame_ext (env : Env) (cfg : DecodeCfg) (now : Int) (p : Plane) (m : Msg)
    (h : getDownlinkFormat m = some 17) :
    applyFrame env cfg now p (.ext (Ext.fromMessage env m)) m 17 =
      if cfg.useUpdate ∨ (getIcao m 17).isSome then
        extArm env m (if cfg.useUpdate then ' ' else chSup0)
          { p with timestamp := now, lastDf := if cfg.useUpdate then 17 else p.lastDf, cap0 := getCapability m,
                   lastTypeCode := (getMessageType m).1 }
      else { p with timestamp := now } := by
  unfold applyFrame
  cases cfg.useUpdate
  · simp only [Bool.false_eq_true, false_or, if_false]
    exact amendExt_fromMessage env m h _
  · rw [if_neg (by decide), Plane.update_eq, Plane.commBStep_ne (by decide)]
    exact updateExtTc_17 ..

/-- what a frame that is neither an extended squitter nor a Comm-B reply may assign, by format -/
def eraseShort (df : Nat) : Plane → Plane :=
  if df = 4 then eraseAlt else if df = 5 then eraseSquawk else if df = 11 then eraseCap else eraseStamp

theorem eraseShort_set (df : Nat) (p : Plane) (t : Int) (l : Nat) {c4 c5 c11 : Prop} [Decidable c4] [Decidable c5]
    [Decidable c11] (a q : Option Nat) (c : Nat) (h4 : c4 → df = 4) (h5 : c5 → df = 5) (h11 : c11 → df = 11) :
    eraseShort df { p with timestamp := t, lastDf := l, altitude := if c4 then a else p.altitude,
                           altitudeSource := if c4 then ' ' else p.altitudeSource,
                           squawk := if c5 then q else p.squawk, cap0 := if c11 then c else p.cap0 }
      = eraseShort df p := by
  unfold eraseShort
  by_cases k4 : df = 4
  · rw [if_pos k4, if_neg (mt h5 (by omega)), if_neg (mt h11 (by omega))]
    delta eraseAlt eraseStamp; rfl
  rw [if_neg k4, if_neg (mt h4 k4), if_neg (mt h4 k4)]
  by_cases k5 : df = 5
  · rw [if_pos k5, if_neg (mt h11 (by omega))]
    delta eraseSquawk eraseStamp; rfl
  rw [if_neg k5, if_neg (mt h5 k5)]
  by_cases k11 : df = 11
  · rw [if_pos k11]
    delta eraseCap eraseStamp; rfl
  rw [if_neg k11, if_neg (mt h11 k11)]
  rfl

/-- the table by downlink format; four theorems of C11 read it at `df = 4`, `5`, `11` and at the rest.  On either
    path the row after such a frame is `p` with the two stamps, altitude (and its mark), squawk and capability set,
    each of these under a test on the format (`amendSrt` on the record's `df`, `updateFromBcast` on `df` itself):
    `eraseShort_set` asks only that each test implies its format. -/
theorem short_touches (env : Env) (cfg : DecodeCfg) (now : Int) (p : Plane) (m : Msg) (df : Nat) (dl : DFRec)
    (hdf : getDownlinkFormat m = some df) (hdl : DFRec.fromMessage env m = some dl)
    (h : df ≤ 16 ∨ df = 19 ∨ 22 ≤ df) :
    eraseShort df (applyFrame env cfg now p dl m df) = eraseShort df p := by
  -- tests that are `False`: the guarded assignments evaluate to the old values, and the row is this one by eta
  have stamp : eraseShort df { p with timestamp := now } = eraseShort df p :=
    eraseShort_set df p now p.lastDf (c4 := False) (c5 := False) (c11 := False) none none 0
      False.elim False.elim False.elim
  obtain ⟨h17, h18, h20, h21⟩ : df ≠ 17 ∧ df ≠ 18 ∧ df ≠ 20 ∧ df ≠ 21 := by omega
  unfold applyFrame
  split
  · by_cases hle : df ≤ 16
    · obtain rfl := Option.some.inj ((fromMessage_srt env m df hdf hle).symm.trans hdl)
      rw [srt_fromMessage m df hdf]
      -- `amendSrt` evaluates once the address is known to be there or not
      cases getIcao m df with
      | none => exact stamp
      | some _ =>
        exact eraseShort_set df p now p.lastDf _ _ _ (fun k => Option.some.inj k.1) (fun k => Option.some.inj k.1)
          Option.some.inj
    · obtain rfl := Option.some.inj ((fromMessage_unknown env m df hdf (by omega)).symm.trans hdl)
      exact stamp
  · rw [update_short env now p m df _ ⟨h17, h18, h20, h21⟩]
    exact eraseShort_set df p now df _ _ _ (·.resolve_right h20) (·.resolve_right h21) (·.resolve_right h17)

/-- what an extended squitter may assign, by type-code class -/
def eraseClass : TcClass → Plane → Plane
  | .ident => eraseIdent | .surface => eraseSurface | .airborne => eraseAirpos | .velocity => eraseVelocity
  | .gnss => eraseGnss | .status => eraseVersion | .other => eraseHead

theorem eraseClass_head (k : TcClass) (p : Plane) (t : Int) (l c x : Nat) :
    eraseClass k { p with timestamp := t, lastDf := l, cap0 := c, lastTypeCode := x } = eraseClass k p := by
  cases k <;> dsimp only [eraseClass] <;>
    delta eraseIdent eraseSurface eraseAirpos eraseVelocity eraseGnss eraseVersion eraseHead eraseStamp erasePos <;> rfl

theorem eraseClass_extArm (env : Env) (m : Msg) (mark : Char) (q : Plane) :
    eraseClass (tcClass (getMessageType m).1) (extArm env m mark q) = eraseClass (tcClass (getMessageType m).1) q := by
  unfold extArm
  cases tcClass (getMessageType m).1 <;> dsimp only [eraseClass]
  case surface | airborne =>
    refine .trans (of_erase (erasePos_storeCpr ..) fun _ => ?_) ?_ <;>
      delta eraseSurface eraseAirpos eraseHead eraseStamp erasePos <;> rfl
  all_goals delta eraseIdent eraseVelocity eraseGnss eraseVersion eraseHead eraseStamp; rfl

/-- the table by type-code class; seven theorems of C11 read it at `k := .ident` .. `.other` -/
theorem ext_touches (env : Env) (cfg : DecodeCfg) (now : Int) (p : Plane) (m : Msg)
    (hdf : getDownlinkFormat m = some 17) (k : TcClass) (hk : tcClass (getMessageType m).1 = k) :
    eraseClass k (applyFrame env cfg now p (.ext (Ext.fromMessage env m)) m 17) = eraseClass k p := by
  subst hk
  rw [applyFrame_ext env cfg now p m hdf]
  split
  · exact (eraseClass_extArm ..).trans (eraseClass_head ..)
  · exact eraseClass_head _ p now p.lastDf p.cap0 p.lastTypeCode

end Sq
