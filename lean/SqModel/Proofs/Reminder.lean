/-
`reminder` (crc.rs) returns 0 for every vector of at least six digits: its loop stops four bytes
before the three bytes it returns, which were initialised to zero.  (The repository's `test_reminder`
pins this 0, which is why `get_message` has `parity_ok` as a filter of its own beside it.)
-/
import SqModel.Model.Crc
import SqModel.Proofs.Basic

namespace Sq

def TailZero (N : Nat) (bs : List Nat) : Prop :=
  bs.length = N ∧ ∀ t, N - 3 ≤ t → bs.getD t 0 = 0

theorem init_tail (m : Msg) (f : Nat → Nat) (hl : 6 ≤ m.length) :
    TailZero m.length ((m.take (m.length - 6)).map f ++ List.replicate 6 0) := by
  have hlen : ((m.take (m.length - 6)).map f).length = m.length - 6 := by
    rw [List.length_map, List.length_take, Nat.min_eq_left (Nat.sub_le _ _)]
  refine ⟨by rw [List.length_append, hlen, List.length_replicate, Nat.sub_add_cancel hl], fun t ht => ?_⟩
  rw [List.getD_eq_getElem?_getD, List.getElem?_append_right (by rw [hlen]; omega), List.getElem?_replicate]
  split <;> rfl

theorem TailZero.set {N : Nat} {bs : List Nat} (h : TailZero N bs) (i v : Nat) (hi : i + 3 < N) : TailZero N (bs.set i v) :=
  ⟨by rw [List.length_set, h.1], fun t ht => by
    rw [List.getD_eq_getElem?_getD, List.getElem?_set_ne (by omega), ← List.getD_eq_getElem?_getD]
    exact h.2 t ht⟩

theorem set4_tail (N i : Nat) (hi : i + 6 < N) (bs : List Nat) (a b c d : Nat) (h : TailZero N bs) :
    TailZero N ((((bs.set i a).set (i + 1) b).set (i + 2) c).set (i + 3) d) :=
  (((h.set i a (by omega)).set (i + 1) b (by omega)).set (i + 2) c (by omega)).set (i + 3) d (by omega)

theorem loops_tail {N : Nat} {bytes0 : List Nat} (step : Nat → List Nat → Nat → List Nat) (h0 : TailZero N bytes0)
    (hstep : ∀ i, i + 6 < N → ∀ bs j, TailZero N bs → TailZero N (step i bs j)) :
    TailZero N ((List.range (bytes0.length - 6)).foldl (fun bs i => (List.range 8).foldl (step i) bs) bytes0) :=
  List.foldlRecOn _ _ h0 fun bs hbs i hi => List.foldlRecOn _ _ hbs fun bs hbs j _ =>
    hstep i (by have := List.mem_range.mp hi; rw [h0.1] at this; omega) bs j hbs

theorem TailZero.last {N : Nat} {bs : List Nat} (h : TailZero N bs) (k : Nat) (hk : k ≤ 3) :
    bs.getD (bs.length - k) 0 = 0 := by
  rw [h.1]
  exact h.2 _ (Nat.sub_le_sub_left hk N)

theorem reminder_eq_zero (m : Msg) (hl : 6 ≤ m.length) : reminder m = 0 := by
  have h := loops_tail (reminderBit Gen.reminderGenerator) (init_tail m (· &&& 0xF) hl) fun i hi bs j hbs =>
    ite_ind (TailZero _) (set4_tail _ _ hi _ _ _ _ _ hbs) hbs
  rw [reminder, h.last 3 (by decide), h.last 2 (by decide), h.last 1 (by decide)]
  rfl

end Sq
