/-
The nested prefix match of `icao_to_country` is a lookup in a set of pairwise disjoint address
blocks, and that set is the allocation table of `Spec/Annex10.lean`.
-/
import SqModel.Model.Country
import SqModel.Spec.Annex10
import SqModel.Proofs.Basic

namespace Sq
open Spec

abbrev Block := Nat × Nat × Nat     -- (first address, fixed leading bits, code)

def Block.size (b : Block) : Nat := 2 ^ (24 - b.2.1)
def inBlock (a : Nat) (b : Block) : Bool := decide (b.1 ≤ a) && decide (a < b.1 + b.size)

def blockOfArm (shift : Nat) (arm : Nat × Nat) : Block := (arm.1 <<< shift, 24 - shift, arm.2)

def blocksOf (levels : List (Nat × List (Nat × Nat))) : List Block :=
  levels.flatMap fun l => l.2.map (blockOfArm l.1)

def lookupBlocks (a : Nat) (bs : List Block) (dflt : Nat) : Nat :=
  ((bs.find? (inBlock a)).map (·.2.2)).getD dflt

theorem inBlock_arm (a s : Nat) (hs : s ≤ 24) (arm : Nat × Nat) :
    inBlock a (blockOfArm s arm) = (arm.1 == a >>> s) := by
  have h2 : 0 < 2 ^ s := Nat.pow_pos (by decide)
  rw [Bool.eq_iff_iff, beq_iff_eq, Nat.shiftRight_eq_div_pow, eq_comm (a := arm.1), Nat.div_eq_iff h2]
  simp only [inBlock, blockOfArm, Block.size, Nat.shiftLeft_eq, Nat.sub_sub_self hs, Bool.and_eq_true,
    decide_eq_true_iff]
  exact and_congr_right' (Nat.le_sub_one_iff_lt (Nat.add_pos_right _ h2)).symm

theorem find_arm (a s : Nat) (hs : s ≤ 24) (arms : List (Nat × Nat)) :
    ((arms.map (blockOfArm s)).find? (inBlock a)).map (·.2.2)
      = (arms.find? fun x => x.1 == a >>> s).map (·.2) := by
  have h : inBlock a ∘ blockOfArm s = fun x => x.1 == a >>> s := funext (inBlock_arm a s hs)
  rw [List.find?_map, Option.map_map, h]
  rfl

theorem nestedMatch_eq_lookup (a : Nat) (levels : List (Nat × List (Nat × Nat)))
    (hs : ∀ l ∈ levels, l.1 ≤ 24) :
    nestedMatch a levels = lookupBlocks a (blocksOf levels) Gen.countryDefault := by
  induction levels with
  | nil => rfl
  | cons l ls ih =>
    obtain ⟨hs0, hs'⟩ := List.forall_mem_cons.mp hs
    rw [nestedMatch, matchLevel, ← find_arm a l.1 hs0, ih hs', lookupBlocks, lookupBlocks, blocksOf, blocksOf,
      List.flatMap_cons, List.find?_append]
    cases (l.2.map (blockOfArm l.1)).find? (inBlock a) <;> rfl

def Sep (b1 b2 : Block) : Prop := b1.1 + b1.size ≤ b2.1
instance : DecidableRel Sep := fun _ _ => Nat.decLe _ _

theorem Sep.not_both {b1 b2 : Block} (r : Sep b1 b2) {a : Nat} (h1 : inBlock a b1 = true)
    (h2 : inBlock a b2 = true) : False := by
  simp only [inBlock, Bool.and_eq_true, decide_eq_true_iff] at h1 h2
  unfold Sep at r
  omega

theorem unique_block {l : List Block} (h : l.Pairwise Sep) {a : Nat} {x y : Block}
    (hx : x ∈ l) (hy : y ∈ l) (hax : inBlock a x = true) (hay : inBlock a y = true) : x = y :=
  List.Pairwise.forall_of_forall_of_flip (R := fun x y => inBlock a x = true → inBlock a y = true → x = y)
    (fun _ _ _ _ => rfl) (h.imp fun r h1 h2 => (r.not_both h1 h2).elim)
    (h.imp fun r h1 h2 => (r.not_both h2 h1).elim) hx hy hax hay

theorem lookup_of_mem {l : List Block} (a d : Nat) (b : Block) (hb : b ∈ l) (hab : inBlock a b = true)
    (hu : ∀ x ∈ l, inBlock a x = true → x = b) : lookupBlocks a l d = b.2.2 := by
  unfold lookupBlocks
  cases hf : l.find? (inBlock a) with
  | none => exact absurd hab (List.find?_eq_none.mp hf b hb)
  | some c => rw [hu c (List.mem_of_find?_eq_some hf) (List.find?_some hf)]; rfl

theorem lookup_of_not_mem {l : List Block} (a d : Nat) (h : ∀ b ∈ l, inBlock a b = false) :
    lookupBlocks a l d = d := by
  rw [lookupBlocks, List.find?_eq_none.mpr fun b hb => Bool.eq_false_iff.mp (h b hb)]
  rfl

/-- merge by first address; when the fuel runs out the rest is appended, so whatever the fuel the
    members are those of both lists -/
def mergeBlocks : Nat → List Block → List Block → List Block
  | n + 1, x :: xs, y :: ys =>
    bif Nat.ble x.1 y.1 then x :: mergeBlocks n xs (y :: ys) else y :: mergeBlocks n (x :: xs) ys
  | _, xs, ys => xs ++ ys

theorem mergeBlocks_perm (n : Nat) (xs ys : List Block) : (mergeBlocks n xs ys).Perm (xs ++ ys) := by
  fun_induction mergeBlocks n xs ys with
  | case1 n x xs y ys _ ih => exact ih.cons x
  | case2 n x xs y ys _ ih => exact (ih.cons y).trans List.perm_middle.symm
  | case3 => exact .refl _

/-- merge sort of the first `2 ^ d` members, and the members left over: one pass, cheap to evaluate -/
def sortBlocks : Nat → List Block → List Block × List Block
  | 0, [] => ([], [])
  | 0, x :: l => ([x], l)
  | d + 1, l =>
    let a := sortBlocks d l
    let b := sortBlocks d a.2
    (mergeBlocks (2 ^ (d + 1)) a.1 b.1, b.2)

theorem sortBlocks_perm : ∀ d l, ((sortBlocks d l).1 ++ (sortBlocks d l).2).Perm l
  | 0, [] => .refl _
  | 0, _ :: _ => .refl _
  | d + 1, l => by
    refine ((mergeBlocks_perm ..).append_right _).trans ?_
    rw [List.append_assoc]
    exact ((sortBlocks_perm d _).append_left _).trans (sortBlocks_perm d l)

theorem shifts_ok : ∀ l ∈ Gen.countryLevels, l.1 ≤ 24 := by decide +kernel

theorem blocks_sorted : sortBlocks 8 (blocksOf Gen.countryLevels) = (annex10, []) := by decide +kernel

theorem blocks_perm : (blocksOf Gen.countryLevels).Perm annex10 := by
  have := sortBlocks_perm 8 (blocksOf Gen.countryLevels)
  rwa [blocks_sorted, List.append_nil, List.perm_comm] at this

theorem blocks_length : (blocksOf Gen.countryLevels).length = annex10.length := blocks_perm.length_eq

/-- the table is in ascending order, so it is enough that each block ends before the next begins -/
theorem annex10_separated : annex10.Pairwise Sep :=
  pairwise_of_adjacent (R := Sep) (fun h1 h2 => Nat.le_trans h1 (Nat.le_trans (Nat.le_add_right _ _) h2)) annex10
    (by decide +kernel)

theorem annex10_in_range : ∀ b ∈ annex10, b.1 + Block.size b ≤ 2 ^ 24 ∧ b.2.1 ≤ 24 := by decide +kernel

theorem default_is_unallocated : Gen.countryDefault = unallocated := by decide +kernel

theorem mem_blocks_iff (b : Block) : b ∈ blocksOf Gen.countryLevels ↔ b ∈ annex10 := blocks_perm.mem_iff

end Sq
