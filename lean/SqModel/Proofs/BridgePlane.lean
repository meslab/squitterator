/-
Bridge, third part: the translated row-update methods (`Generated/TransPlane.lean`) simulate the hand-written
row model (`Model/Plane.lean`): every model step on a row `p` is the translated step on `planeToT p`.  Also here: the
records `DF::from_message` builds (`Srt`, `Ext`, `Mds`, `DF`) against the model's, and the `-o` sort keys (`sort_key_sim`).
Rows go from the model to the code (`planeToT`), records the other way (`dfOfT`): a record reaches the table as the code built it.
-/
import SqModel.Generated.TransPlane
import SqModel.Proofs.BridgeRat
import SqModel.Proofs.BridgeCpr
import SqModel.Proofs.Accept
import SqModel.Proofs.Downlink
import SqModel.Model.Render

namespace Sq.Bridge
open Sq Spec

/-- the model's row as the code's `Plane` (arrays as pairs; Mach and temperature in the code's units) -/
def planeToT (p : Plane) : T.Plane :=
  { icao := p.icao, capability := (p.cap0, capToT p.cap1), category := p.category, reg := p.reg, ais := p.ais,
    altitude := p.altitude, altitude_gnss := p.altitudeGnss, altitude_source := p.altitudeSource,
    selected_altitude := p.selectedAltitude, barometric_pressure_setting := p.barometricPressureSetting,
    target_altitude_source := p.targetAltitudeSource, squawk := p.squawk, surveillance_status := p.surveillanceStatus,
    threat_encounter := p.threatEncounter, vrate := p.vrate, vrate_source := p.vrateSource,
    cpr_lat := (p.cprLat0, p.cprLat1), cpr_lon := (p.cprLon0, p.cprLon1), cpr_time := (p.cprTime0, p.cprTime1),
    cpr_surface := (p.cprSurf0, p.cprSurf1), lat := p.lat, lon := p.lon, distance_from_observer := p.distance,
    grspeed := p.grspeed, true_airspeed := p.trueAirspeed, indicated_airspeed := p.indicatedAirspeed,
    mach_number := p.machRaw.map machOfRaw, ground_movement := p.groundMovement, turn := p.turn, track := p.track,
    track_source := p.trackSource, heading := p.heading, heading_source := p.headingSource, roll_angle := p.rollAngle,
    track_angle_rate := p.trackAngleRate, bds_5_0_timestamp := p.bds50Timestamp,
    temperature := p.temperature.map degOfQuarter, wind := p.wind, turbulence := p.turbulence, humidity := p.humidity,
    pressure := p.pressure, timestamp := p.timestamp, position_timestamp := p.positionTimestamp,
    track_timestamp := p.trackTimestamp, heading_timestamp := p.headingTimestamp, last_type_code := p.lastTypeCode,
    last_df := p.lastDf, adsb_version := p.adsbVersion }

/-- the model's environment from the code's: the distance function is the haversine to the configured observer -/
def envOfT (te : TEnv) : Env :=
  { atan2deg := te.atan2deg, dist := te.observer.map fun o => fun la lo => te.haversine la lo o.1 o.2 }

/-- a block that the code enters under the test `c` and the model under `c'`, idle otherwise: it is enough to compare
    what the block does when it is entered -/
theorem ite_sim {c c' : Prop} [Decidable c] [Decidable c'] (hc : c ↔ c') {x : T.Plane} {q q' : Plane}
    (h : c' → x = planeToT q') : (if c then x else planeToT q) = planeToT (if c' then q' else q) :=
  (ite_congr (propext hc) h fun _ => rfl).trans (apply_ite planeToT ..).symm

theorem update_from_bcast_sim (p : Plane) (m : Msg) (df : Nat) :
    T.Plane.update_from_bcast (planeToT p) m df = planeToT (p.updateFromBcast m df) := by
  unfold Plane.updateFromBcast T.Plane.update_from_bcast
  rw [← altitude_eq, ← squawk_eq, ← get_capability_eq]
  -- three assignments in turn in the code, one record with conditional fields in the model: with the `Decidable` instances
  -- of the three tests as variables, both sides evaluate in each of the eight cases
  generalize (instDecidableOr : Decidable (df = 4 ∨ df = 20)) = i1
  generalize (instDecidableOr : Decidable (df = 5 ∨ df = 21)) = i2
  generalize (instDecidableOr : Decidable (df = 11 ∨ df = 17)) = i3
  -- `delta planeToT` before `rfl` between rows, here and below: on the rows written out the comparison goes field by
  -- field, which is cheaper than with `planeToT` folded
  delta planeToT
  cases i1 <;> cases i2 <;> cases i3 <;> rfl

theorem update_from_ext_1_4_sim (p : Plane) (m : Msg) (tc st : Nat) :
    T.Plane.update_from_ext_1_4 (planeToT p) m tc st = planeToT (p.updateExt14 m tc st) := by
  delta planeToT; rfl

theorem update_from_ext_20_22_sim (p : Plane) (m : Msg) :
    T.Plane.update_from_ext_20_22 (planeToT p) m = planeToT (p.updateExt2022 m) := by
  delta planeToT; rfl

theorem update_from_ext_31_sim (p : Plane) (m : Msg) :
    T.Plane.update_from_ext_31 (planeToT p) m = planeToT (p.updateExt31 m) := by
  delta planeToT; rfl

/-- the code's two nested `match`es, in the order of `update_from_ext_19` and in that of `amend_from_ext_19`, are the
    model's `gnssUpdate` -/
theorem gnss_sim (s : T.Plane) (a : Option Nat) (d : Option Int) :
    (match a with
     | some a => (match d with
       | some d => { s with altitude_gnss := some (i32ToU32 (u32ToI32 a + d)) }
       | _ => s)
     | _ => s) = { s with altitude_gnss := gnssUpdate s.altitude_gnss a d }
    ∧ (match d with
     | some d => (match a with
       | some a => { s with altitude_gnss := some (i32ToU32 (u32ToI32 a + d)) }
       | _ => s)
     | _ => s) = { s with altitude_gnss := gnssUpdate s.altitude_gnss a d } := by
  cases a <;> cases d <;> exact ⟨rfl, rfl⟩

theorem update_from_ext_19_sim (te : TEnv) (p : Plane) (m : Msg) (L : Long m) (st : Nat) :
    T.Plane.update_from_ext_19 te (planeToT p) m st = planeToT (p.updateExt19 (envOfT te) m st) := by
  unfold Plane.updateExt19 velocityOf
  -- the decoders are rewritten on the model's side, which is small while the code's is still folded
  rw [← vertical_rate_eq m L, ← altitude_delta_eq m L, ← heading_eq]
  -- `delta` keeps the `let`s of the generated body; `unfold` substitutes them, and the nested record updates become a
  -- term that `cases`, which walks it as a tree, pays for
  delta T.Plane.update_from_ext_19
  -- the GNSS block first, as one assignment: then no subtype below needs the cases of `gnssUpdate`
  extract_lets +onlyGivenNames s1 s2 s3
  have h3 : s3 = { s2 with altitude_gnss := gnssUpdate s2.altitude_gnss s2.altitude (T.altitude_delta m) } :=
    (gnss_sim s2 _ _).1
  clear_value s3
  subst h3
  -- every subtype with the conditions evaluated: both sides are the same record
  match st with
  | 0 | 1 | 2 | 3 | 4 | _ + 5 => rfl

theorem update_position_sim (te : TEnv) (p : Plane) (mt form : Nat) :
    T.Plane.update_position te (planeToT p) mt form = planeToT (p.updatePosition (envOfT te) mt form) := by
  unfold Plane.updatePosition Plane.posDecode numSeconds envOfT
  have e (c : Int) : T.cpr_location (planeToT p).cpr_lat (planeToT p).cpr_lon form c
      = cprLocation p.cprLat0 p.cprLat1 p.cprLon0 p.cprLon1 form c := cpr_location_eq ..
  rw [← e, ← e]
  delta T.Plane.update_position
  generalize (if 5 ≤ mt ∧ mt ≤ 8 then _ else _ : Option (Rat × Rat)) = loc
  -- The code's guard, on the fields `planeToT` copies; it compares the seconds as `i64`.  Each `if` is decided by its
  -- condition, in the code's row through `if_pos`/`if_neg` as terms (the condition matches up to unfolding), in the
  -- model's by `rw`: `simp` and `split` would walk the records the code builds
  by_cases h : p.cprLat0 ≠ 0 ∧ p.cprLat1 ≠ 0 ∧ p.cprLon0 ≠ 0 ∧ p.cprLon1 ≠ 0 ∧ p.cprSurf0 = p.cprSurf1
      ∧ (((Int.tdiv (p.cprTime0 - p.cprTime1) 1000).natAbs : Nat) : Int) < 10
  · refine (if_pos h).trans ?_
    rw [Nat.cast_lt_ofNat] at h
    rw [if_pos h]
    obtain _ | ⟨la, lo⟩ := loc
    · rfl
    · by_cases hr : (-90 : Rat) ≤ la ∧ la ≤ 90 ∧ (-180 : Rat) ≤ lo ∧ lo ≤ 180
      · refine (if_pos hr).trans ?_
        rw [Option.filter_some, if_pos (decide_eq_true hr)]
        cases te.observer <;> rfl
      · refine (if_neg hr).trans ?_
        rw [Option.filter_some, if_neg fun hd => hr (of_decide_eq_true hd)]
  · refine (if_neg h).trans ?_
    rw [Nat.cast_lt_ofNat] at h
    rw [if_neg h]

/-- what `update_cpr` and `amend_cpr` do with the triple they have, if any: the model's `storeCpr` (the four array
    stores are `setCprSlot`, slot by slot) -/
theorem storeCpr_sim (te : TEnv) (p : Plane) (tc : Nat) (c : Option (Nat × Nat × Nat)) :
    (match c with
     | some (f, la, lo) =>
       let s := planeToT p
       let s := { s with cpr_lat := arr2Set s.cpr_lat f la }
       let s := { s with cpr_lon := arr2Set s.cpr_lon f lo }
       let s := { s with cpr_time := arr2Set s.cpr_time f s.timestamp }
       let s := { s with cpr_surface := arr2Set s.cpr_surface f (decide (5 ≤ tc ∧ tc ≤ 8)) }
       T.Plane.update_position te s tc f
     | _ => planeToT p) = planeToT (p.storeCpr (envOfT te) tc c) := by
  obtain _ | ⟨f, la, lo⟩ := c
  · rfl
  · refine (congrArg (T.Plane.update_position te · tc f) ?_).trans (update_position_sim te (p.setCprSlot tc (f, la, lo)) tc f)
    delta planeToT
    cases f <;> rfl

theorem update_cpr_sim (te : TEnv) (p : Plane) (m : Msg) (tc : Nat) :
    T.Plane.update_cpr te (planeToT p) m tc = planeToT (p.storeCpr (envOfT te) tc (cprChecked m)) := by
  have e : (fun c : Nat × Nat × Nat => decide (c.1 ≤ 1))
      = fun x => match x with | (cpr_form, _, _) => decide (0 ≤ cpr_form ∧ cpr_form ≤ 1) := by
    funext ⟨a, b, c⟩; simp
  unfold cprChecked
  rw [← storeCpr_sim, ← cpr_eq, e]
  rfl

theorem update_from_ext_5_8_sim (te : TEnv) (p : Plane) (m : Msg) (tc : Nat) :
    T.Plane.update_from_ext_5_8 te (planeToT p) m tc = planeToT (p.updateExt58 (envOfT te) m tc) := by
  unfold Plane.updateExt58
  rw [← ground_movement_eq, ← ground_track_eq, ← update_cpr_sim]
  rfl

theorem update_from_ext_9_18_sim (te : TEnv) (p : Plane) (m : Msg) (tc df : Nat) :
    T.Plane.update_from_ext_9_18 te (planeToT p) m tc df = planeToT (p.updateExt918 (envOfT te) m tc df) := by
  unfold Plane.updateExt918
  rw [← altitude_eq, ← update_cpr_sim]
  rfl

theorem lastTypeCode_sim (p : Plane) (tc : Nat) :
    ({ planeToT p with last_type_code := tc } : T.Plane) = planeToT { p with lastTypeCode := tc } := by
  delta planeToT; rfl

theorem update_from_ext_sim (te : TEnv) (p : Plane) (m : Msg) (L : Long m) (df : Nat) :
    T.Plane.update_from_ext te (planeToT p) m df = planeToT (p.updateFromExt (envOfT te) m df) := by
  unfold T.Plane.update_from_ext Plane.updateFromExt
  rw [get_message_type_eq]
  rcases getMessageType m with ⟨tc, st⟩
  dsimp only
  rw [lastTypeCode_sim, Plane.updateExtTc_eq, tcClass_match]
  cases tcClass tc
  exacts [update_from_ext_1_4_sim .., update_from_ext_5_8_sim .., update_from_ext_9_18_sim ..,
    update_from_ext_19_sim te _ m L st, update_from_ext_20_22_sim .., update_from_ext_31_sim .., rfl]

/-- `update_from_mode_s` is generated as a chain of blocks `step1` .. `step8` that hand on (bds, self); each block is
    simulated by a stage of the model.  This is the state between two blocks against the model's (row, still undecided) -/
inductive StR : (Nat × Nat) × T.Plane → Plane × Bool → Prop
  | mk (b : Nat × Nat) (p : Plane) (u : Bool) (hu : u = true ↔ b = (0, 0)) : StR (b, planeToT p) (p, u)

section stages
variable {t t' : (Nat × Nat) × T.Plane} {s s' : Plane × Bool}

theorem StR.of_eq {b : Nat × Nat} {tp : T.Plane} {p : Plane} {u : Bool} (e : tp = planeToT p)
    (hu : u = true ↔ b = (0, 0)) : StR (b, tp) (p, u) :=
  e ▸ ⟨b, p, u, hu⟩

theorem StR.open_iff (h : StR t s) : t.1 = (0, 0) ↔ s.2 = true := by
  obtain ⟨b, p, u, hu⟩ := h
  exact hu.symm

/-- a block and a stage that fire under the same condition and are idle otherwise -/
theorem StR.ite (h : StR t s) {c : Prop} [Decidable c] {cM : Bool} (hc : c ↔ cM = true) (h' : StR t' s') :
    StR (if c then t' else t) (if cM then s' else s) := by
  rw [if_congr hc rfl rfl]
  split <;> assumption

/-- the gate of the blocks for 4,0 / 5,0 / 6,0: `x`, `y` are the capability bit in the code's row and in the model's -/
theorem StR.gate (h : StR t s) {r x y : Bool} (e : x = y) :
    t.1 = (0, 0) ∧ (r = true ∨ x = true) ↔ (s.2 && (r || y)) = true := by
  rw [Bool.and_eq_true, Bool.or_eq_true, h.open_iff, e]

variable (m : Msg) (df : Nat) (r : Bool)

-- each block: the condition by `StR.ite`; then the decoder recognises nothing and the state stays, or it recognises
-- its register and what the code writes is what the model writes (`rfl`, in each case of an option the block looks into)
theorem step3_sim (h : StR t s) : StR (T.Plane.update_from_mode_s.step3 t.2 m df r t.1) (stage17 m s) := by
  unfold T.Plane.update_from_mode_s.step3 stage17
  refine h.ite h.open_iff ?_
  rw [is_bds_1_7_eq]
  cases isBds17 m with
  | none => exact h
  | some v => cases h; exact .of_eq (by delta planeToT; rfl) (by decide)

/-- the code's spelling of `sourceMark` -/
theorem sourceMark_eq (v : Option Nat) :
    sourceMark v = match v with
      | some v => if v = 1 then chSub1 else if v = 2 then chSub2 else if v = 3 then chSub3 else ' '
      | _ => ' ' := by
  obtain _ | _ | _ | _ | _ | n := v <;> rfl

theorem step4_sim (h : StR t s) : StR (T.Plane.update_from_mode_s.step4 t.2 m df r t.1) (stage40 m r s) := by
  unfold T.Plane.update_from_mode_s.step4 stage40
  refine h.ite (h.gate (by cases h; rfl)) ?_
  rw [is_bds_4_0_eq]
  cases isBds40 m with
  | none => exact h
  | some v =>
    cases h
    refine .of_eq ?_ (by decide)
    -- the row that `of_eq` has found is still a projection of the block's `match`
    dsimp only [Option.map_some]
    rw [sourceMark_eq]
    rfl

theorem step5_sim (L : Long m) (h : StR t s) :
    StR (T.Plane.update_from_mode_s.step5 t.2 m df r t.1) (stage50 m r s) := by
  unfold T.Plane.update_from_mode_s.step5 stage50
  refine h.ite (h.gate (by cases h; rfl)) ?_
  rw [is_bds_5_0_eq m L]
  cases isBds50 m with
  | none => exact h
  | some v => cases h; exact .of_eq (by delta planeToT; rfl) (by decide)

theorem step6_sim (L : Long m) (h : StR t s) :
    StR (T.Plane.update_from_mode_s.step6 t.2 m df r t.1) (stage60 m r s) := by
  unfold T.Plane.update_from_mode_s.step6 stage60
  refine h.ite (h.gate (by cases h; rfl)) ?_
  rw [is_bds_6_0_eq m L]
  cases isBds60 m with
  | none => exact h
  | some v =>
    cases h
    refine .of_eq ?_ (by decide)
    obtain ⟨hd, ias, mach, _ | br, ivv⟩ := v <;> rfl

theorem step7_sim (L : Long m) (h : StR t s) :
    StR (T.Plane.update_from_mode_s.step7 t.2 m df r t.1) (stage44 m s) := by
  unfold T.Plane.update_from_mode_s.step7 stage44
  refine h.ite h.open_iff ?_
  rw [is_bds_4_4_eq m L]
  cases isBds44 m with
  | none => exact h
  | some v =>
    cases h
    refine .of_eq ?_ (by decide)
    obtain ⟨tmp, _ | w, hum, tur, prs⟩ := v <;> rfl

theorem step8_sim (h : StR t s) : T.Plane.update_from_mode_s.step8 t.2 m df r t.1 = planeToT (stage45 m s) := by
  unfold T.Plane.update_from_mode_s.step8 stage45
  obtain ⟨b, p, u, hu⟩ := h
  refine ite_sim hu.symm fun _ => ?_
  rw [is_bds_4_5_eq]
  cases isBds45 m <;> rfl

/-- the two blocks for the registers that carry their code -/
theorem stageCoded_sim (p : Plane) :
    StR (bdsCode m, T.Plane.update_from_mode_s.step2 (T.Plane.update_from_mode_s.step1 (planeToT p) m df r (bdsCode m))
      m df r (bdsCode m)) (stageCoded m p) := by
  have e1 : T.Plane.update_from_mode_s.step1 (planeToT p) m df r (bdsCode m)
      = planeToT (if bdsCode m = (2, 0) then { p with ais := Sq.ais m } else p) := by
    rw [apply_ite planeToT]; rfl
  have e2 (q : Plane) : T.Plane.update_from_mode_s.step2 (planeToT q) m df r (bdsCode m)
      = planeToT (if bdsCode m = (3, 0) then { q with threatEncounter := Sq.threatEncounter m } else q) := by
    unfold T.Plane.update_from_mode_s.step2
    rw [apply_ite planeToT, threat_encounter_eq]; rfl
  rw [e1, e2]
  exact ⟨_, _, _, decide_eq_true_iff⟩

end stages

theorem update_from_mode_s_sim (p : Plane) (m : Msg) (L : Long m) (df : Nat) (r : Bool) :
    T.Plane.update_from_mode_s (planeToT p) m df r = planeToT (p.updateFromModeS m r) := by
  unfold T.Plane.update_from_mode_s Plane.updateFromModeS
  rw [bds_eq]
  -- the code threads (bds, self) through `let (bds, self) := ..`: up to the matches on a pair this is the composition;
  -- `with_reducible` keeps the check from unfolding the blocks
  with_reducible exact step8_sim m df r (step7_sim m df r L (step6_sim m df r L (step5_sim m df r L
    (step4_sim m df r (step3_sim m df r (stageCoded_sim m df r p))))))

theorem stamp_sim (p : Plane) (now : Int) (df : Nat) :
    ({ ({ planeToT p with timestamp := now } : T.Plane) with last_df := df } : T.Plane)
      = planeToT { p with timestamp := now, lastDf := df } := by
  delta planeToT; rfl

theorem commBGate_iff (p : Plane) (df : Nat) (r : Bool) :
    (r = true ∨ (planeToT p).capability.1 > 3) ∧ (df = 20 ∨ df = 21) ↔ commBGate p df r = true := by
  simp only [commBGate, Bool.and_eq_true, Bool.or_eq_true, decide_eq_true_eq]
  rfl

/-- `Plane::update` (the -U path, and DF20/21 always) -/
theorem update_sim (te : TEnv) (now : Int) (p : Plane) (m : Msg) (df : Nat) (r : Bool)
    (hL : (df = 17 ∨ df = 18 ∨ df = 20 ∨ df = 21) → Long m) :
    T.Plane.update now te (planeToT p) m df r = planeToT (p.update (envOfT te) now m df r) := by
  have key : T.Plane.update now te (planeToT p) m df r =
      (let s1 := T.Plane.update_from_bcast (planeToT { p with timestamp := now, lastDf := df }) m df
       let s2 := if df = 17 ∨ df = 18 then T.Plane.update_from_ext te s1 m df else s1
       if (r = true ∨ s2.capability.1 > 3) ∧ (df = 20 ∨ df = 21) then T.Plane.update_from_mode_s s2 m df r else s2) := rfl
  rw [key, update_from_bcast_sim]
  unfold Plane.update
  generalize Plane.updateFromBcast _ m df = p1
  dsimp only
  -- the block for extended squitters, then the one for Comm-B replies; either test names formats whose frames are long
  rw [ite_sim Iff.rfl fun h => update_from_ext_sim te p1 m (hL (h.imp_right .inl)) df]
  exact ite_sim (commBGate_iff _ df r) fun h =>
    update_from_mode_s_sim _ m (hL (.inr (.inr ((commBGate_iff _ df r).2 h).2))) df r

theorem new_sim (now : Int) : T.Plane.new now = planeToT (Plane.new now) := by
  delta planeToT; rfl

theorem from_message_sim (te : TEnv) (now : Int) (m : Msg) (df icao : Nat) (r : Bool)
    (hL : (df = 17 ∨ df = 18 ∨ df = 20 ∨ df = 21) → Long m) :
    T.Plane.from_message now te m df icao r = planeToT (Plane.fromMessage (envOfT te) now m df icao r) :=
  update_sim te now { Plane.new now with icao := icao, reg := (icaoToCountry icao).2 } m df r hL

def srtToT (d : Srt) : T.Srt :=
  { df := d.df, icao := d.icao, squawk := d.squawk, capability := d.capability, altitude := d.altitude }

def extToT (d : Ext) : T.Ext :=
  { df := d.df, icao := d.icao, capability := d.capability, message_type := d.messageType, ais := d.ais,
    category := d.category, cpr := d.cpr, ground_movement := d.groundMovement, grspeed := d.grspeed, track := d.track,
    track_source := d.trackSource, heading := d.heading, heading_source := d.headingSource, altitude := d.altitude,
    altitude_source := d.altitudeSource, altitude_delta := d.altitudeDelta, altitude_gnss := d.altitudeGnss,
    vrate := d.vrate, vrate_source := d.vrateSource, surveillance_status := d.surveillanceStatus,
    adsb_version := d.adsbVersion }

theorem srt_update_sim (m : Msg) : T.Srt.update T.Srt.new m = srtToT (Srt.fromMessage m) := by
  unfold T.Srt.update Srt.fromMessage T.Srt.new
  cases getDownlinkFormat m with
  | none => rfl
  | some df =>
    simp only [altitude_eq, squawk_eq, get_capability_eq, apply_ite srtToT]
    rfl

theorem update_from_downlink_Srt_sim (p : Plane) (d : Srt) :
    T.Plane.update_from_downlink_Srt (planeToT p) (srtToT d) = planeToT (p.amendSrt d) := by
  obtain ⟨df, icao, sq, cap, alt⟩ := d
  cases icao
  · rfl
  -- by the format: 4 writes the altitude, 5 the squawk, 11 the capability, any other nothing
  by_cases h4 : df = some 4
  · subst h4; cases alt <;> rfl
  by_cases h5 : df = some 5
  · subst h5; cases sq <;> rfl
  by_cases h11 : df = some 11
  · subst h11; cases cap <;> rfl
  -- no block is entered: in the code's row each `if` is decided by a term (`simp` would walk the records)
  refine (if_neg h11).trans ((if_neg fun h => h5 h.1).trans ((if_neg fun h => h4 h.1).trans (congrArg planeToT ?_)))
  simp only [Plane.amendSrt, Option.isSome_some, h4, h5, h11, false_and, if_false, if_true]

theorem update_from_downlink_Mds_sim (p : Plane) (d : T.Mds) :
    T.Plane.update_from_downlink_Mds (planeToT p) d = planeToT { p with icao := d.icao.getD p.icao } := by
  unfold T.Plane.update_from_downlink_Mds
  cases d.icao <;> rfl

theorem ext_update_sim (te : TEnv) (m : Msg) (L : Long m) :
    T.Ext.update te T.Ext.new m = extToT (Ext.fromMessage (envOfT te) m) := by
  -- the two case distinctions with their equations: rewriting by a hypothesis goes through `simp`, whose traversal is
  -- cached; the `Decidable` instances in the generated `T.Ext.update` repeat the record built so far in full
  cases hd : getDownlinkFormat m with
  | none => simp only [T.Ext.update, Ext.fromMessage, hd]; rfl
  | some df =>
    rcases hm : getMessageType m with ⟨tc, st⟩
    simp only [T.Ext.update, Ext.fromMessage, hd, get_capability_eq, get_message_type_eq, hm,
      T.Ext.update_mt_1_4, T.Ext.update_mt_5_18, T.Ext.update_mt_19, T.Ext.update_mt_20_22, T.Ext.update_mt_31,
      cpr_eq, ground_movement_eq, ground_track_eq, altitude_eq, surveillance_status_eq, vertical_rate_eq m L,
      altitude_delta_eq m L, heading_eq, altitude_gnss_eq, version_eq, apply_ite extToT, ite_range_split tc 5 8 18]
    simp only [extToT, T.Ext.new, envOfT, chSup0, chSub1, chSub2, chSub3]

theorem amend_cpr_sim (te : TEnv) (p : Plane) (d : Ext) :
    T.Plane.amend_cpr te (planeToT p) (extToT d) = planeToT (p.storeCpr (envOfT te) d.messageType.1 d.cpr) :=
  storeCpr_sim te p d.messageType.1 d.cpr

theorem amend_from_ext_1_4_sim (p : Plane) (d : Ext) :
    T.Plane.amend_from_ext_1_4 (planeToT p) (extToT d) = planeToT (p.amendExt14 d) := by
  obtain ⟨_, _, _, _, _ | _⟩ := d <;> rfl

theorem amend_from_ext_5_8_sim (te : TEnv) (p : Plane) (d : Ext) :
    T.Plane.amend_from_ext_5_8 te (planeToT p) (extToT d) = planeToT (p.amendExt58 (envOfT te) d) := by
  unfold Plane.amendExt58
  rw [← amend_cpr_sim]
  rfl

theorem amend_from_ext_9_18_sim (te : TEnv) (p : Plane) (d : Ext) :
    T.Plane.amend_from_ext_9_18 te (planeToT p) (extToT d) = planeToT (p.amendExt918 (envOfT te) d) := by
  unfold Plane.amendExt918
  rw [← amend_cpr_sim]
  rfl

theorem amend_from_ext_19_sim (p : Plane) (d : Ext) :
    T.Plane.amend_from_ext_19 (planeToT p) (extToT d) = planeToT (p.amendExt19 d) := by
  unfold Plane.amendExt19
  rw [show d.messageType = (extToT d).message_type from rfl]
  delta T.Plane.amend_from_ext_19
  extract_lets +onlyGivenNames s1 s2 s3
  have h3 : s3 = { s2 with altitude_gnss := gnssUpdate s2.altitude_gnss s2.altitude d.altitudeDelta } :=
    (gnss_sim s2 _ _).2
  clear_value s3
  subst h3
  match (extToT d).message_type.2 with
  | 0 | 1 | 2 | 3 | 4 | _ + 5 => rfl

theorem amend_from_ext_20_22_sim (p : Plane) (d : Ext) :
    T.Plane.amend_from_ext_20_22 (planeToT p) (extToT d) = planeToT (p.amendExt2022 d) := by
  delta planeToT; rfl

theorem amend_from_ext_31_sim (p : Plane) (d : Ext) :
    T.Plane.amend_from_ext_31 (planeToT p) (extToT d) = planeToT (p.amendExt31 d) := by
  delta planeToT; rfl

theorem update_from_downlink_Ext_sim (te : TEnv) (p : Plane) (d : Ext) :
    T.Plane.update_from_downlink_Ext te (planeToT p) (extToT d) = planeToT (p.amendExt (envOfT te) d) := by
  have e : ({ ({ planeToT p with last_type_code := d.messageType.1 } : T.Plane) with
      capability := (d.capability, (planeToT p).capability.2) } : T.Plane)
      = planeToT { p with lastTypeCode := d.messageType.1, cap0 := d.capability } := by delta planeToT; rfl
  unfold T.Plane.update_from_downlink_Ext Plane.amendExt
  refine ite_sim Iff.rfl fun _ => ?_
  dsimp only
  rw [show (extToT d).message_type = d.messageType from rfl, show (extToT d).capability = d.capability from rfl, e,
    Plane.amendExtTc_eq, tcClass_match]
  cases tcClass d.messageType.1
  exacts [amend_from_ext_1_4_sim .., amend_from_ext_5_8_sim .., amend_from_ext_9_18_sim ..,
    amend_from_ext_19_sim .., amend_from_ext_20_22_sim .., amend_from_ext_31_sim .., rfl]

def srtOfT (d : T.Srt) : Srt :=
  { df := d.df, icao := d.icao, squawk := d.squawk, capability := d.capability, altitude := d.altitude }

def extOfT (d : T.Ext) : Ext :=
  { df := d.df, icao := d.icao, capability := d.capability, messageType := d.message_type, ais := d.ais,
    category := d.category, cpr := d.cpr, groundMovement := d.ground_movement, grspeed := d.grspeed, track := d.track,
    trackSource := d.track_source, heading := d.heading, headingSource := d.heading_source, altitude := d.altitude,
    altitudeSource := d.altitude_source, altitudeDelta := d.altitude_delta, altitudeGnss := d.altitude_gnss,
    vrate := d.vrate, vrateSource := d.vrate_source, surveillanceStatus := d.surveillance_status,
    adsbVersion := d.adsb_version }

theorem srtOfT_toT (d : Srt) : srtOfT (srtToT d) = d := rfl
theorem extOfT_toT (d : Ext) : extOfT (extToT d) = d := rfl

/-- of the Comm-B record only the address reaches the table (`from_mds.rs`) -/
def dfOfT : T.DF → DFRec
  | .SRT v => .srt (srtOfT v)
  | .EXT v => .ext (extOfT v)
  | .MDS v => .mds v.icao

theorem srt_from_message_sim (m : Msg) : T.Srt.from_message m = some (srtToT (Srt.fromMessage m)) :=
  congrArg some (srt_update_sim m)

theorem ext_from_message_sim (te : TEnv) (m : Msg) (L : Long m) :
    T.Ext.from_message te m = some (extToT (Ext.fromMessage (envOfT te) m)) :=
  congrArg some (ext_update_sim te m L)

-- `Mds::update`: only the first block writes the address
section
variable (self : T.Mds) (m : Msg) (b : Nat × Nat)

/-- a block keeps the address if both its branches do (`f` takes the record out of what the block returns) -/
theorem keeps_icao {α : Type} (f : α → T.Mds) {c : Prop} [Decidable c] {x y : α} (hx : (f x).icao = self.icao)
    (hy : (f y).icao = self.icao) : (f (if c then x else y)).icao = self.icao :=
  ite_ind (fun a => (f a).icao = self.icao) hx hy

theorem mds_step0_icao :
    (T.Mds.update.step0 self m).icao = (match getDownlinkFormat m with | some df => getIcao m df | none => self.icao) := by
  unfold T.Mds.update.step0
  cases getDownlinkFormat m <;> rfl
theorem mds_step2_icao : (T.Mds.update.step2 self m b).icao = self.icao := keeps_icao self id rfl rfl
theorem mds_step3_icao : (T.Mds.update.step3 self m b).icao = self.icao := keeps_icao self id rfl rfl
theorem mds_step4_icao : (T.Mds.update.step4 self m b).2.icao = self.icao :=
  keeps_icao self Prod.snd (by cases T.is_bds_1_7 m <;> rfl) rfl
theorem mds_step5_icao : (T.Mds.update.step5 self m b).2.icao = self.icao :=
  keeps_icao self Prod.snd (by cases T.is_bds_4_0 m <;> rfl) rfl
theorem mds_step6_icao : (T.Mds.update.step6 self m b).2.icao = self.icao :=
  keeps_icao self Prod.snd (by cases T.is_bds_5_0 m <;> rfl) rfl
theorem mds_step7_icao : (T.Mds.update.step7 self m b).2.icao = self.icao :=
  keeps_icao self Prod.snd (by obtain _ | ⟨_, _, _, _ | _, _⟩ := T.is_bds_6_0 m <;> rfl) rfl
theorem mds_step8_icao : (T.Mds.update.step8 self m b).2.icao = self.icao :=
  keeps_icao self Prod.snd (by obtain _ | ⟨_, _ | _, _, _, _⟩ := T.is_bds_4_4 m <;> rfl) rfl
theorem mds_step9_icao : (T.Mds.update.step9 self m b).icao = self.icao := keeps_icao self id rfl rfl

theorem mds_update_icao :
    (T.Mds.update self m).icao = (match getDownlinkFormat m with | some df => getIcao m df | none => self.icao) := by
  unfold T.Mds.update
  simp only [mds_step9_icao, mds_step8_icao, mds_step7_icao, mds_step6_icao, mds_step5_icao, mds_step4_icao,
    mds_step3_icao, mds_step2_icao, mds_step0_icao]

end

theorem mds_new_icao : T.Mds.new.icao = none := rfl

/-- `DF::from_message` builds the model's record (17 needs a 112-bit frame for the casts of the velocity fields) -/
theorem df_from_message_sim (te : TEnv) (m : Msg) (hL : getDownlinkFormat m = some 17 → Long m) :
    (T.DF.from_message te m).map dfOfT = DFRec.fromMessage (envOfT te) m := by
  unfold T.DF.from_message DFRec.fromMessage
  cases hdf : getDownlinkFormat m with
  | none => rfl
  | some v =>
    simp only
    by_cases h1 : v ≤ 16
    · simp [h1, srt_from_message_sim, dfOfT, srtOfT_toT]
    by_cases h2 : v = 17
    · subst h2
      simp [ext_from_message_sim te m (hL hdf), dfOfT, extOfT_toT]
    by_cases h3 : v = 20 ∨ v = 21
    · simp [h1, h2, h3, dfOfT, T.Mds.from_message, mds_update_icao, hdf]
    · simp [h1, h2, h3, dfOfT, srtOfT, T.Srt.new]

/-- `impl UpdateFromDownlink<DF> for Plane` (the default update path) -/
theorem update_from_downlink_DF_sim (now : Int) (te : TEnv) (p : Plane) (d : T.DF) :
    T.Plane.update_from_downlink_DF now te (planeToT p) d = planeToT (p.updateFromDownlink (envOfT te) now (dfOfT d)) :=
  -- the two row lemmas are stated for `srtToT d`, `extToT d`; `v` is `srtToT (srtOfT v)` by eta
  match d with
  | .SRT v => update_from_downlink_Srt_sim { p with timestamp := now } (srtOfT v)
  | .EXT v => update_from_downlink_Ext_sim te { p with timestamp := now } (extOfT v)
  | .MDS v => update_from_downlink_Mds_sim { p with timestamp := now } v

/-- `Plane::from_downlink` (every row is created through it) -/
theorem from_downlink_sim (now : Int) (te : TEnv) (d : T.DF) (icao : Nat) :
    T.Plane.from_downlink now te d icao = planeToT (Plane.fromDownlink (envOfT te) now (dfOfT d) icao) :=
  update_from_downlink_DF_sim now te { Plane.new now with icao := icao, reg := (icaoToCountry icao).2 } d

/-- every `-o` letter compares two rows as the model's `sortKey` does ('C', which no property names, for
    categories below 2^20: the code negates an `i32`) -/
theorem sort_key_sim (c : Char) (p q : Plane)
    (hC : c = 'C' → p.category.1 < 1048576 ∧ p.category.2 < 1048576 ∧ q.category.1 < 1048576 ∧ q.category.2 < 1048576) :
    (T.sort_key c).map (fun k => (k.1 (planeToT p) (planeToT q), k.2))
      = (sortKey c).map (fun k => (k.1 p q, k.2)) := by
  -- `x as i32` of the sort key that 'C' makes of a category pair below 2^20
  have cast (z : Nat × Nat) (h1 : z.1 < 2 ^ 20) (h2 : z.2 < 2 ^ 20) :=
    u32ToI32_of_lt (Nat.or_lt_two_pow (shl_lt (b := 1) h1) (Nat.lt_trans h2 (by decide)))
  unfold T.sort_key sortKey
  -- letter by letter, in the order of the source (a A c C d D N S W E s V v): the model's comparison on the fields `planeToT`
  -- copies, except that 'C' (fourth) and 'V' (twelfth) negate both sides
  refine map_ite_congr <| map_ite_congr <| map_ite_congr <| map_ite_congr (h := fun h => ?C) <| map_ite_congr <|
    map_ite_congr <| map_ite_congr <| map_ite_congr <| map_ite_congr <| map_ite_congr <| map_ite_congr <|
    map_ite_congr (h := fun _ => ?V) <| map_ite_congr rfl
  case C =>
    obtain ⟨a, b, d, e⟩ := hC h
    refine congrArg (fun x => some (x, false)) (decide_eq_decide.2 ?_)
    rw [cast (planeToT p).category a b, cast (planeToT q).category d e, neg_le_neg_iff, Int.ofNat_le]
    rfl
  case V => exact congrArg (fun x => some (x, false)) (decide_eq_decide.2 neg_le_neg_iff)

-- constructors that only `impl Default` reaches
theorem capability_new_eq : T.Capability.new = capToT {} := rfl
theorem svi_new_eq : T.SelectedVerticalIntention.new = bdsToT { mcp := none, fms := none, baro := none, source := none } := rfl
theorem tat_new_eq : T.TrackAndTurn.new = bds50ToT { roll := none, track := none, rate := none, gs := none, tas := none } := rfl
theorem has_new_eq : T.HeadingAndSpeed.new = bds60ToT { heading := none, ias := none, mach := none, baroRate := none, ivv := none } := rfl
theorem meteo_new_eq : T.Meteo.new = meteoToT { temp := none, wind := none, humidity := none, turbulence := none, pressure := none } := rfl

end Sq.Bridge
