/-
Bridge for `src/decoder/adsb/position.rs`: the translated `pmod`, `fixed_lat`, `signed_lon`, `nl`, `cpr_location`
(`Generated/Trans.lean`, f64 as exact rationals) are the hand-written model of `Model/Cpr.lean`, on which the theorems of
C08 are stated.
-/
import SqModel.Generated.Trans
import SqModel.Proofs.RatPrim

namespace Sq.Bridge
open Sq

theorem pmod_eq (x y : Int) : T.pmod x y = pmod x y := rfl

theorem fixed_lat_eq (lat : Rat) : T.fixed_lat lat = fixedLat lat := rfl
theorem signed_lon_eq (lon : Rat) : T.signed_lon lon = signedLon lon := rfl

/-- the table inside `nl` is the table the extractor reads (`Generated/NlTable.lean`), scaled by 10^8 -/
theorem nl_boundaries_eq :
    T.nl.boundaries = Gen.nlBoundaries.map (fun b => ((b.1 : Rat) / 100000000, (b.2 : Int))) := by
  decide +kernel

theorem nl_eq (lat : Rat) : T.nl lat = nlOf lat := by
  unfold T.nl nlOf ratAbs
  simp only [nl_boundaries_eq, List.find?_map, Function.comp_def]
  cases List.find? _ Gen.nlBoundaries <;> rfl

/-- **`cpr_location` as translated is the model's `cprLocation`** (for every argument: both take the saturating `as i32`,
    the truncating `%` of `f64` on the whole number `j`, and index `rlat` by `cpr_form`) -/
theorem cpr_location_eq (lat lon : Nat × Nat) (form : Nat) (coeff : Int) :
    T.cpr_location lat lon form coeff = cprLocationArr lat lon form coeff := by
  unfold T.cpr_location cprLocationArr cprLocation cprRlat
  simp only [Nat.reduceShiftLeft, Nat.cast_ofNat, ratFloor_half, ratFmod_ofNat, fixed_lat_eq, signed_lon_eq, nl_eq, pmod_eq,
    arr2Get, beq_iff_eq]
  by_cases hf : form = 1
  · subst hf; rfl
  · simp only [hf, if_false]

end Sq.Bridge
