/-
Trap-freedom of the translated code (C01's arithmetic clause).

`Generated/TransSafe.lean` (regenerated from /repo's source on every run by `extract/rs2safe.py`) states, for every translated
function, the conjunction of the conditions under which none of its operations panics - unsigned subtraction, overflowing
`+`/`*`, over-wide shifts, indexing, `expect`/`unwrap`, division by zero, and the safety of every call it makes - each under the
path condition of its site.  This file proves those propositions under the hypotheses the callers establish: a vector of
nibbles (`AllNib`) of the length the downlink format needs.  A changed or new operation in the source changes the generated
proposition and the proof below has to go through again.
-/
import SqModel.Generated.TransSafe
import SqModel.Proofs.BridgePlane
import SqModel.Proofs.Accept
import SqModel.Proofs.SafeCpr
import SqModel.Proofs.SafeReminder
import SqModel.Proofs.SafeAttr

namespace Sq.Safe
open Sq Bridge Spec

/-- An obligation of a composite function sits under the `let`s that thread the record being built, the `match`es on it and
    the path condition of its site.  `peel` steps through that prefix (no choice is involved: binders are introduced,
    a `match` is split, an arm that asks for nothing is closed); what it leaves are the obligations proper, in a context
    that no longer matters to them.
    `intro _` instead of `intros` would be far dearer: on a `match` goal it first tries to evaluate the discriminant. -/
macro "peel" : tactic => `(tactic| ((intros; repeat' (split; intros)) <;> try exact True.intro))

-- The functions without a trapping operation: their propositions are `True`.  One theorem each (with the generated binder
-- list), so that every name of `T.safe_names` is met by a theorem; the composites use them through `call_safe`.
theorem temp_4_5_safe' (sign : Nat) (value : Nat) : T.temp_4_5.safe sign value := trivial
theorem Capability_new_safe'  : T.Capability.new.safe  := trivial
theorem Capability_from_data_safe' (flags : Nat) (bds20 : Bool) (bds40 : Bool) (bds44 : Bool) (bds50 : Bool) (bds60 : Bool) : T.Capability.from_data.safe flags bds20 bds40 bds44 bds50 bds60 := trivial
theorem SelectedVerticalIntention_new_safe'  : T.SelectedVerticalIntention.new.safe  := trivial
theorem SelectedVerticalIntention_from_data_safe' (mcp_selected_altitude : Option Nat) (fms_selected_altitude : Option Nat) (barometric_pressure_setting : Option Nat) (target_altitude_source : Option Nat) : T.SelectedVerticalIntention.from_data.safe mcp_selected_altitude fms_selected_altitude barometric_pressure_setting target_altitude_source := trivial
theorem TrackAndTurn_new_safe'  : T.TrackAndTurn.new.safe  := trivial
theorem TrackAndTurn_from_data_safe' (roll_angle : Option Int) (track_angle : Option Nat) (track_angle_rate : Option Int) (ground_speed : Option Nat) (true_airspeed : Option Nat) : T.TrackAndTurn.from_data.safe roll_angle track_angle track_angle_rate ground_speed true_airspeed := trivial
theorem HeadingAndSpeed_new_safe'  : T.HeadingAndSpeed.new.safe  := trivial
theorem HeadingAndSpeed_from_data_safe' (magnetic_heading : Option Nat) (indicated_airspeed : Option Nat) (mach_number : Option Rat) (barometric_altitude_rate : Option Int) (internal_vertical_velocity : Option Int) : T.HeadingAndSpeed.from_data.safe magnetic_heading indicated_airspeed mach_number barometric_altitude_rate internal_vertical_velocity := trivial
theorem Meteo_new_safe'  : T.Meteo.new.safe  := trivial
theorem Meteo_from_data_safe' (temp : Option Rat) (wind : Option (Nat × Nat)) (humidity : Option Nat) (turbulence : Option Nat) (pressure : Option Nat) : T.Meteo.from_data.safe temp wind humidity turbulence pressure := trivial
theorem Srt_new_safe'  : T.Srt.new.safe  := trivial
theorem Ext_new_safe'  : T.Ext.new.safe  := trivial
theorem Ext_update_mt_1_4_safe' (self : T.Ext) (message : Msg) : T.Ext.update_mt_1_4.safe self message := trivial
theorem Mds_new_safe'  : T.Mds.new.safe  := trivial
theorem Plane_amend_from_ext_1_4_safe' (self : T.Plane) (dl : T.Ext) : T.Plane.amend_from_ext_1_4.safe self dl := trivial
theorem Plane_amend_from_ext_20_22_safe' (self : T.Plane) (dl : T.Ext) : T.Plane.amend_from_ext_20_22.safe self dl := trivial
theorem Plane_amend_from_ext_31_safe' (self : T.Plane) (dl : T.Ext) : T.Plane.amend_from_ext_31.safe self dl := trivial
theorem Plane_update_from_downlink_Mds_safe' (self : T.Plane) (dl : T.Mds) : T.Plane.update_from_downlink_Mds.safe self dl := trivial
theorem Plane_update_from_downlink_Srt_safe' (self : T.Plane) (dl : T.Srt) : T.Plane.update_from_downlink_Srt.safe self dl := trivial
theorem Plane_update_from_ext_1_4_safe' (self : T.Plane) (message : Msg) (message_type : Nat) (message_subtype : Nat) : T.Plane.update_from_ext_1_4.safe self message message_type message_subtype := trivial
theorem AppCounters_reset_cleanup_count_safe' (self : T.AppCounters) : T.AppCounters.reset_cleanup_count.safe self := trivial
theorem AppCounters_reset_timestamp_safe' (self : T.AppCounters) (now : Int) : T.AppCounters.reset_timestamp.safe self now := trivial
theorem AppCounters_is_time_to_refresh_safe' (self : T.AppCounters) (now : Int) (update : Int) : T.AppCounters.is_time_to_refresh.safe self now update := trivial

attribute [call_safe] temp_4_5_safe' Capability_new_safe' Capability_from_data_safe' SelectedVerticalIntention_new_safe'
  SelectedVerticalIntention_from_data_safe' TrackAndTurn_new_safe' TrackAndTurn_from_data_safe' HeadingAndSpeed_new_safe'
  HeadingAndSpeed_from_data_safe' Meteo_new_safe' Meteo_from_data_safe' Srt_new_safe' Ext_new_safe' Ext_update_mt_1_4_safe'
  Mds_new_safe' Plane_amend_from_ext_1_4_safe' Plane_amend_from_ext_20_22_safe' Plane_amend_from_ext_31_safe'
  Plane_update_from_downlink_Mds_safe' Plane_update_from_downlink_Srt_safe' Plane_update_from_ext_1_4_safe'
  AppCounters_reset_cleanup_count_safe' AppCounters_reset_timestamp_safe' AppCounters_is_time_to_refresh_safe'

theorem bit_location_safe {p : Nat} (h : 1 ≤ p) : T.bit_location.safe p := ⟨h, h⟩

/-- the read of one flag bit, when there is one (position 0 stands for none) -/
theorem flag_bit_safe {m : Msg} {p : Nat} (hp : p ≤ 4 * m.length) (h : ¬ p = 0) :
    T.bit_location.safe p ∧ (p - 1) / 4 < m.length ∧ (p - 1) % 4 ≤ 3 ∧ 3 - (p - 1) % 4 < 32 :=
  have h1 := Nat.pos_of_ne_zero h
  ⟨bit_location_safe h1, Nat.div_lt_of_lt_mul (Nat.lt_of_lt_of_le (Nat.sub_lt h1 Nat.one_pos) hp),
    Nat.le_of_lt_succ (Nat.mod_lt _ (by decide)), Nat.lt_of_le_of_lt (Nat.sub_le ..) (by decide)⟩

/-- every read of bits `sb..eb` that lies inside the vector is trap-free -/
theorem range_value_safe (m : Msg) (sb eb : Nat) (h1 : 1 ≤ sb) (h2 : 1 ≤ eb) (h3 : eb ≤ 4 * m.length) (hl : m.length < 2 ^ 32) :
    T.range_value.safe m sb eb := by
  unfold T.range_value.safe
  -- every obligation but the first two stands under the same path condition: taken out once
  simp only [bit_location_eq, bitLocation_eq, ← imp_and]
  refine ⟨bit_location_safe h1, bit_location_safe h2, fun hp => ?_⟩
  obtain ⟨_, hb, hd, hd'⟩ := flag_bit_safe h3 (Nat.ne_of_gt h2)
  have hac : (sb - 1) / 4 ≤ (eb - 1) / 4 := Nat.le_of_not_lt fun h => hp (.inl h)
  have hs : (sb - 1) % 4 < 4 := Nat.mod_lt _ (by decide)
  generalize (sb - 1) / 4 = a, (sb - 1) % 4 = b, (eb - 1) / 4 = c, (eb - 1) % 4 = d at hs hd hd' hb hac ⊢
  have ha : a < m.length := Nat.lt_of_le_of_lt hac hb
  have hd1 := Nat.succ_lt_succ (Nat.lt_succ_of_le hd)
  -- what is asked: bit offsets below 4, digit offsets inside the vector, and (last line) the digits between the two
  simp only [hb, hac, ha, hd, hd', Nat.le_of_lt hb, Nat.lt_trans hs (by decide : 4 < 64), Nat.lt_trans hd1 (by decide : 4 + 1 < 2 ^ 64),
    Nat.lt_trans hd1 (by decide : 4 + 1 < 32), Nat.lt_trans (Nat.succ_lt_succ (Nat.lt_trans ha hl)) (by decide : 2 ^ 32 + 1 < 2 ^ 64),
    implies_true, and_true, true_and]
  exact fun h => Nat.succ_le_of_lt (Nat.lt_of_sub_ne_zero h.1)

theorem flag_and_range_value_safe (m : Msg) (flag sb eb : Nat) (hf : flag ≤ 4 * m.length) (h1 : 1 ≤ sb) (h2 : 1 ≤ eb)
    (h3 : eb ≤ 4 * m.length) (hl : m.length < 2 ^ 32) : T.flag_and_range_value.safe m flag sb eb := by
  unfold T.flag_and_range_value.safe
  simp only [bit_location_eq, bitLocation_eq]
  have f := flag_bit_safe hf
  exact ⟨fun h => (f h).1, fun h => (f h).2.1, fun h => (f h).2.2.1, fun h => (f h).2.2.2, range_value_safe m sb eb h1 h2 h3 hl⟩

theorem status_flag_and_range_value_safe (m : Msg) (status flag sb eb : Nat) (hs : status ≤ 4 * m.length) (hf : flag ≤ 4 * m.length)
    (h1 : 1 ≤ sb) (h2 : 1 ≤ eb) (h3 : eb ≤ 4 * m.length) (hl : m.length < 2 ^ 32) :
    T.status_flag_and_range_value.safe m status flag sb eb := by
  unfold T.status_flag_and_range_value.safe
  simp only [bit_location_eq, bitLocation_eq]
  have f := flag_bit_safe hs
  exact ⟨fun h => (f h).1, fun h => (f h).2.1, fun h => (f h).2.2.1, fun h => (f h).2.2.2,
    flag_and_range_value_safe m flag sb eb hf h1 h2 h3 hl⟩

theorem bits_le {m : Msg} {n b : Nat} (h : n ≤ m.length) (hb : b ≤ 4 * n := by decide) : b ≤ 4 * m.length :=
  Nat.le_trans hb (Nat.mul_le_mul_left 4 h)

theorem get_downlink_format_safe (m : Msg) (h : 14 ≤ m.length) (hl : m.length ≤ 28) : T.get_downlink_format.safe m :=
  range_value_safe m 1 5 (by decide) (by decide) (bits_le h) (Nat.lt_of_le_of_lt hl (by decide))

theorem range_value_isSome (m : Msg) (sb eb : Nat) (h : sb ≤ eb) : (T.range_value m sb eb).isSome = true := by
  unfold T.range_value
  simp only [bit_location_eq, bitLocation_eq]
  have hle : sb - 1 ≤ eb - 1 := Nat.sub_le_sub_right h 1
  split
  · next hc =>
    -- the digit of `eb` is not before that of `sb`; in the same digit, a smaller offset would make `eb` the smaller
    refine absurd (hc.resolve_left (Nat.not_lt.2 (Nat.div_le_div_right hle))) fun ⟨hq, hr⟩ => Nat.not_lt.2 hle ?_
    rw [← Nat.div_add_mod (eb - 1) 4, ← Nat.div_add_mod (sb - 1) 4, hq]
    exact Nat.add_lt_add_left hr _
  · rfl

theorem crc56_safe (m : Msg) (h : 8 ≤ m.length) (hl : m.length < 2 ^ 32) : T.crc56.safe m :=
  ⟨range_value_safe m 1 32 (by decide) (by decide) (bits_le h) hl, range_value_isSome m 1 32 (by decide)⟩

theorem crc112_safe (m : Msg) (h : 22 ≤ m.length) (hl : m.length < 2 ^ 32) : T.crc112.safe m :=
  ⟨range_value_safe m 1 32 (by decide) (by decide) (bits_le h) hl, range_value_isSome m 1 32 (by decide),
    range_value_safe m 33 64 (by decide) (by decide) (bits_le h) hl, range_value_isSome m 33 64 (by decide),
    range_value_safe m 65 88 (by decide) (by decide) (bits_le h) hl,
    Option.isSome_map.trans (range_value_isSome m 65 88 (by decide))⟩

theorem get_crc_safe (m : Msg) (df : Nat) (h : 14 ≤ m.length) (h22 : 15 < df → 22 ≤ m.length) (hl : m.length < 2 ^ 32) :
    T.get_crc.safe m df :=
  ⟨fun _ => crc56_safe m (Nat.le_trans (by decide) h) hl,
    fun c => crc112_safe m (h22 (Nat.lt_of_not_le fun h' => c ⟨Nat.zero_le _, h'⟩)) hl⟩

/-- the last 24 bits of a frame of 14 to 28 digits, which `parity_ok` and `get_icao` read -/
theorem tail_safe (m : Msg) (h : 14 ≤ m.length) (hl : m.length ≤ 28) :
    m.length * 4 % 4294967296 = m.length * 4 ∧ 23 ≤ m.length * 4 ∧ T.range_value.safe m (m.length * 4 - 23) (m.length * 4) :=
  have h56 : 14 * 4 ≤ m.length * 4 := Nat.mul_le_mul_right 4 h
  ⟨Nat.mod_eq_of_lt (Nat.lt_of_le_of_lt (Nat.mul_le_mul_right 4 hl) (by decide)), Nat.le_trans (by decide) h56,
    range_value_safe m _ _ (Nat.le_sub_of_add_le (Nat.le_trans (by decide) h56)) (Nat.le_trans (by decide) h56)
      (Nat.le_of_eq (Nat.mul_comm ..)) (Nat.lt_of_le_of_lt hl (by decide))⟩

theorem parity_ok_safe (m : Msg) (h : 14 ≤ m.length) (hl : m.length ≤ 28)
    (hfit : ∀ df, T.get_downlink_format m = some df → 15 < df → 22 ≤ m.length) : T.parity_ok.safe m := by
  unfold T.parity_ok.safe
  obtain ⟨e, h23, hrv⟩ := tail_safe m h hl
  have hl32 : m.length < 2 ^ 32 := Nat.lt_of_le_of_lt hl (by decide)
  rw [e]
  refine ⟨Nat.lt_of_le_of_lt (Nat.mul_le_mul_right 4 hl) (by decide), get_downlink_format_safe m h hl,
    fun _ _ _ => h23, fun _ _ _ => hrv, fun o ho _ => ?_, fun _ _ _ => h23, fun _ _ _ => hrv, fun _ _ _ => ?_⟩ <;>
    (split <;> [skip; trivial])
  · exact get_crc_safe m o h (hfit o ho) hl32
  · exact get_crc_safe m 11 h (absurd · (by decide)) hl32

/-- the table of bit positions is finite: inside the first 8 digits, shifts below the width of the code -/
theorem ma_code_safe (m : Msg) (h : 8 ≤ m.length) : T.ma_code.safe m :=
  have tab : ∀ q ∈ T.ma_code.bit_positions.zipIdx, q.1.1 < 8 ∧ q.1.2 < 32 ∧ q.2 ≤ 13 := by decide
  ⟨fun _ ⟨⟨_, _⟩, _⟩ hp => Nat.lt_of_lt_of_le (tab _ hp).1 h, fun _ ⟨⟨_, _⟩, _⟩ hp => (tab _ hp).2.1,
    fun _ ⟨⟨_, _⟩, _⟩ hp => (tab _ hp).2.2, fun _ ⟨⟨_, _⟩, _⟩ _ => Nat.lt_of_le_of_lt (Nat.sub_le ..) (by decide)⟩

theorem extract_bit_safe (v b : Nat) (h : b < 16) : T.extract_bit.safe v b := h

theorem graytobin_safe (m : Msg) (h : 8 ≤ m.length) : T.graytobin.safe m := by
  -- `ma_code` always returns a code, so each obligation is that of `extract_bit`: a literal position below 16
  refine ⟨ma_code_safe m h, ?_, ?_, ?_, ?_, ?_, ?_, ?_, ?_, ?_, ?_⟩ <;> (show _ < 16; decide)

theorem clean_squitter_safe (cs : List Char) : T.clean_squitter.safe cs := by
  unfold T.clean_squitter.safe; omega

/-- **`get_message` never traps, on any line**: each stage of the gate establishes what the next one needs -/
theorem get_message_safe (cs : List Char) : T.get_message.safe cs := by
  unfold T.get_message.safe
  refine ⟨clean_squitter_safe cs, ?_, ?_, ?_⟩ <;> (split <;> [skip; trivial])
  all_goals
    rename_i m hm
    simp only [Option.filter_eq_some_iff, decide_eq_true_eq] at hm
  -- of what the filters say only the length (14 or 28 digits, `hlen`) is kept for `omega`
  · obtain ⟨-, hlen⟩ := hm
    exact get_downlink_format_safe m (by omega) (by omega)
  · obtain ⟨⟨-, hlen⟩, -⟩ := hm
    exact reminder_safe m (by omega) (by omega)
  · obtain ⟨⟨⟨-, hlen⟩, hfit⟩, -⟩ := hm
    refine parity_ok_safe m (by omega) (by omega) fun df hdf hd => ?_
    -- the second filter: 28 digits for a format above 15
    simp only [hdf, if_neg fun c : 0 ≤ df ∧ df ≤ 15 => Nat.not_lt.2 c.2 hd, beq_iff_eq] at hfit
    exact hfit ▸ by decide

theorem get_icao_safe (m : Msg) (df : Nat) (h : 14 ≤ m.length) (hl : m.length ≤ 28)
    (hfit : (df ≤ 15 ∧ 8 ≤ m.length) ∨ (15 < df ∧ 22 ≤ m.length)) : T.get_icao.safe m df := by
  unfold T.get_icao.safe
  obtain ⟨e, h23, hrv⟩ := tail_safe m h hl
  have hl32 : m.length < 2 ^ 32 := Nat.lt_of_le_of_lt hl (by decide)
  simp only [e]
  refine ⟨fun _ => Nat.lt_of_le_of_lt (Nat.mul_le_mul_right 4 hl) (by decide), fun _ => h23, fun _ => hrv, fun _ => ?_,
    fun _ => range_value_safe m 9 32 (by decide) (by decide) (bits_le h) hl32⟩
  split
  · exact get_crc_safe m df h (fun hd => (hfit.resolve_left fun s => Nat.not_lt.2 s.1 hd).2) hl32
  · trivial

theorem mul_le {v b c : Nat} (h : v < b) : v * c ≤ (b - 1) * c :=
  Nat.mul_le_mul_right c (Nat.le_sub_one_of_lt h)

/-- the decoders' multiplications: a value below `b`, times `c`, stays below `n` when `(b - 1) * c` does (`hc`, by
    evaluation at the call: `b`, `c`, `n` are literals there) -/
theorem mul_lt {v b c n : Nat} (h : v < b) (hc : (b - 1) * c < n := by decide) : v * c < n :=
  Nat.lt_of_le_of_lt (mul_le h) hc

/-- every step of the fold ORs in one bit, shifted by at most 13 -/
theorem maCode_lt (m : Msg) : maCode m < 16384 := by
  unfold maCode
  show _ < 2 ^ 14
  apply List.foldlRecOn (motive := (· < 2 ^ 14)) _ _ (by decide)
  intro r hr p _
  refine Nat.or_lt_two_pow hr (Nat.lt_of_lt_of_le (shl_lt (Nat.and_lt_two_pow _ (by decide : 1 < 2 ^ 1))) ?_)
  exact Nat.pow_le_pow_right (by decide) (by unfold Gen.maTopShift; omega)

/-- mask and result stay below 2^8: the mask only shrinks, and the result only takes bits of the mask -/
theorem grayLoop_lt (n : Nat) : grayLoop n < 256 := by
  unfold grayLoop
  refine (List.foldlRecOn (motive := fun st : Nat × Bool × Nat => st.1 < 2 ^ 8 ∧ st.2.2 < 2 ^ 8) _ _ (b := (0x80, false, 0))
    (by decide) ?_).2
  intro ⟨mask, cp, result⟩ ⟨hm, hr⟩ _ _
  exact ⟨Nat.lt_of_le_of_lt (Nat.shiftRight_le _ _) hm, ite_ind (· < 2 ^ 8) (Nat.or_lt_two_pow hr hm) hr⟩

theorem graytobin_bounds (m : Msg) : (Sq.graytobin m).1 < 32 ∧ (Sq.graytobin m).2 ≤ 4 := by
  unfold Sq.graytobin graytobinOfCode
  refine ⟨?_, ?_⟩ <;> dsimp only
  · rw [Nat.shiftRight_eq_div_pow]; exact Nat.div_lt_of_lt_mul (grayLoop_lt _)
  · -- `low`: an `if` over two chains of four `if`s with literal leaves (a `repeat'` would pay for a failing `apply` at each leaf)
    apply ite_ind (· ≤ 4) <;> (iterate 4 (apply ite_ind (· ≤ 4); decide)) <;> decide

theorem altitude_value_safe (m : Msg) (code : Option Nat) (hc : ∀ c, code = some c → c < 65536) : T.altitude_value.safe m code := by
  unfold T.altitude_value.safe
  cases code with
  | none => simp only [and_self]
  | some c =>
    -- what is multiplied is bounded by where it comes from: the two Gillham parts by `graytobin_bounds` (at most 31
    -- five-hundreds and 4 hundreds), the 25-ft count by its width (9 bits of a 16-bit code, shifted by 4, or-ed with 4 more)
    obtain ⟨hh, hlow⟩ := graytobin_bounds m
    generalize Sq.graytobin m = g at hh hlow
    obtain ⟨high, low⟩ := g
    have hs : high * 500 + low * 100 < 2 ^ 32 :=
      Nat.lt_of_le_of_lt (Nat.add_le_add (mul_le hh) (Nat.mul_le_mul_right 100 hlow)) (by decide)
    have h1 := Nat.lt_of_le_of_lt (Nat.le_add_right _ _) hs
    have h2 := Nat.lt_of_le_of_lt (Nat.le_add_left _ _) hs
    have h7 : c >>> 7 < 512 := by rw [Nat.shiftRight_eq_div_pow]; exact Nat.div_lt_of_lt_mul (hc c rfl)
    have hq := Nat.or_lt_two_pow (shl_lt (n := 9) (b := 4) h7) (Nat.and_lt_two_pow (c >>> 2) (by decide : 0b1111 < 2 ^ (9 + 4)))
    exact ⟨fun _ _ => h1, fun _ _ => h2, fun _ _ => hs, fun _ _ _ => h1, fun _ _ _ => h2, fun _ _ _ => hs, fun _ _ h => h,
      fun _ _ => mul_lt h7, fun _ _ => mul_lt hq, fun _ => mul_lt h7⟩

theorem vertical_rate_value_safe {sign value : Nat} (h1 : 1 ≤ value) (h2 : value < 512) : T.vertical_rate_value.safe sign value := by
  unfold T.vertical_rate_value.safe
  have hv : value - 1 < 2 ^ 9 := Nat.lt_of_le_of_lt (Nat.sub_le ..) h2
  refine ⟨h1, mul_lt hv, fun _ => ?_⟩
  rw [u32ToI32_of_lt (shl_lt hv)]
  omega

theorem delta_safe {sign value : Nat} (h : value < 128) : T.delta.safe sign value := by
  unfold T.delta.safe
  rw [u32ToI32_of_lt h]
  omega

theorem octal_lt (a b c : Nat) : (((a &&& 1) <<< 2) ||| ((b &&& 1) <<< 1)) ||| (c &&& 1) < 8 :=
  Nat.or_lt_two_pow (n := 3)
    (Nat.or_lt_two_pow (shl_lt (n := 1) (and_one_lt a)) (Nat.lt_trans (shl_lt (n := 1) (and_one_lt b)) (by decide)))
    (Nat.lt_trans (and_one_lt c) (by decide))

theorem squawk_safe (m : Msg) : T.squawk.safe m := by
  unfold T.squawk.safe maCodeOpt
  dsimp only
  generalize maCode m = code
  -- the four digits are octal, so a product is at most 7 times its weight and a partial sum at most 7770; the shifts inside a
  -- digit are of a single bit
  have h1 := octal_lt (code >>> 8) (code >>> 10) (code >>> 12)
  have h2 := octal_lt (code >>> 3) (code >>> 5) (code >>> 7)
  have h3 := octal_lt (code >>> 9) (code >>> 11) (code >>> 13)
  have h4 := octal_lt (code >>> 2) (code >>> 4) (code >>> 6)
  have s2 := Nat.add_le_add (mul_le (c := 1000) h1) (mul_le (c := 100) h2)
  have s3 := Nat.add_le_add s2 (mul_le (c := 10) h3)
  exact ⟨mul_lt (and_one_lt _), mul_lt (and_one_lt _), mul_lt h1, mul_lt (and_one_lt _), mul_lt (and_one_lt _), mul_lt h2, Nat.lt_of_le_of_lt s2 (by decide),
    mul_lt (and_one_lt _), mul_lt (and_one_lt _), mul_lt h3, Nat.lt_of_le_of_lt s3 (by decide), mul_lt (and_one_lt _), mul_lt (and_one_lt _),
    Nat.lt_of_le_of_lt (Nat.add_le_add s3 (Nat.le_of_lt_succ h4)) (by decide)⟩

theorem ia5_safe (c : Nat) : T.ia5.safe c := trivial

theorem wake_safe (vc : Nat × Nat) : T.get_wake_turbulence_category.safe vc := trivial

theorem roll_angle_safe {sign value : Nat} (h : value < 512) : T.roll_angle.safe sign value := by
  unfold T.roll_angle.safe
  rw [u32ToI32_of_lt h]
  refine ⟨by omega, by decide, fun _ => ?_⟩
  have h1 : (0 : Int) ≤ Int.tdiv ((value : Int) * 45) 256 := Int.tdiv_nonneg (by omega) (by decide)
  have h2 : Int.tdiv ((value : Int) * 45) 256 ≤ (value : Int) * 45 := Int.tdiv_le_self _ (by omega)
  omega

theorem track_angle_safe {sign value : Nat} (h : value < 1024) : T.track_angle.safe sign value :=
  ⟨mul_lt h, fun _ => Nat.lt_of_le_of_lt (Nat.add_le_add_right (Nat.shiftRight_le ..) _) (Nat.add_lt_of_lt_sub (mul_lt h))⟩

theorem track_angle_rate_safe {sign value : Nat} (h : value < 512) : T.track_angle_rate.safe sign value := by
  unfold T.track_angle_rate.safe
  have hs : (value <<< 3) >>> 8 < 2 ^ (9 + 3) := Nat.lt_of_le_of_lt (Nat.shiftRight_le ..) (shl_lt h)
  rw [u32ToI32_of_lt hs]
  exact ⟨mul_lt h, fun _ => by omega⟩

theorem magnetic_heading_safe {sign value : Nat} (h : value < 1024) : T.magnetic_heading.safe sign value :=
  track_angle_safe h

theorem barometric_altitude_rate_safe {sign value : Nat} (h : value < 512) : T.barometric_altitude_rate.safe sign value := by
  unfold T.barometric_altitude_rate.safe
  simp only [u32ToI32_of_lt h, show (2 : Int) ^ 5 = 32 by decide]
  omega

theorem internal_vertical_velocity_safe {sign value : Nat} (h : value < 512) : T.internal_vertical_velocity.safe sign value := by
  unfold T.internal_vertical_velocity.safe
  have hs : value <<< 5 < 2 ^ (9 + 5) := shl_lt h
  rw [u32ToI32_of_lt hs]
  exact ⟨mul_lt h, fun _ => by omega⟩

theorem temp_4_4_safe {sign value : Nat} (h : value < 1024) : T.temp_4_4.safe sign value := by
  unfold T.temp_4_4.safe
  rw [u32ToI32_of_lt h]
  omega

/- The field decoders, on a 112-bit frame of nibbles (`Long m`).  A decoder reads a flag and a field at literal positions and
   computes with the field's value: its obligations are that the positions lie in the frame (`Long.pos`, `Long.digit`) and
   that the arithmetic is safe for a value of the field's width (`Long.frv_lt`, `Long.sfrv_lt`).  The last stands under the
   generated `match` on what was read; `split` opens it (a lemma cannot: each generated matcher is a constant of its own). -/

@[call_safe] theorem ais_safe (m : Msg) (L : Long m) : T.ais.safe m :=
  have n (i : Nat) : nib m i * 2 ^ 2 < 2 ^ 32 := mul_lt (nib_lt m L.nib i)
  have a (i : Nat) : (nib m i &&& 3) * 2 ^ 4 < 2 ^ 32 := mul_lt (Nat.lt_succ_of_le Nat.and_le_right)
  ⟨L.digit, n 10, L.digit, a 11, L.digit, L.digit, n 13, L.digit, a 14, L.digit, L.digit, n 16, L.digit, a 17, L.digit, L.digit, n 19,
    L.digit, a 20, L.digit, fun _ _ => trivial⟩

@[call_safe] theorem indicated_airspeed_6_0_safe (m : Msg) (L : Long m) : T.indicated_airspeed_6_0.safe m := ⟨L.pos, L.pos, L.pos⟩

@[call_safe] theorem mach_number_6_0_safe (m : Msg) (L : Long m) : T.mach_number_6_0.safe m := ⟨L.pos, L.pos, L.pos⟩

@[call_safe] theorem pressure_4_4_safe (m : Msg) (L : Long m) : T.pressure_4_4.safe m := ⟨L.pos, L.pos, L.pos⟩

@[call_safe] theorem target_altitude_source_safe (m : Msg) (L : Long m) : T.target_altitude_source.safe m := ⟨L.pos, L.pos, L.pos⟩

@[call_safe] theorem turbulence_4_4_safe (m : Msg) (L : Long m) : T.turbulence_4_4.safe m := ⟨L.pos, L.pos, L.pos⟩

section
variable (m : Msg) (L : Long m)
include L

@[call_safe] theorem me_code_safe : T.me_code.safe m := by
  refine ⟨L.pos, L.pos, L.pos, ?_⟩
  split
  · next h => exact mul_lt (L.frv_lt h).2
  · trivial

@[call_safe] theorem vertical_rate_safe : T.vertical_rate.safe m := by
  refine ⟨L.pos, L.pos, L.pos, ?_⟩
  split
  · next h =>
    obtain ⟨h, hne⟩ := Option.filter_eq_some_iff.1 h
    exact vertical_rate_value_safe (Nat.pos_of_ne_zero (bne_iff_ne.1 hne)) (L.frv_lt h).2
  · trivial

@[call_safe] theorem version_safe : T.version.safe m := ⟨L.pos, L.pos⟩

@[call_safe] theorem surveillance_status_safe : T.surveillance_status.safe m := L.digit

@[call_safe] theorem ground_movement_safe : T.ground_movement.safe m := ⟨L.pos, L.pos⟩

@[call_safe] theorem altitude_delta_safe : T.altitude_delta.safe m := by
  refine ⟨L.pos, L.pos, L.pos, ?_⟩
  split
  · next h => exact delta_safe (L.frv_lt (Option.eq_some_of_filter_eq_some h)).2
  · trivial

@[call_safe] theorem altitude_gnss_safe : T.altitude_gnss.safe m := ⟨L.pos, L.pos⟩

@[call_safe] theorem threat_encounter_safe : T.threat_encounter.safe m := ⟨L.digit, L.digit⟩

@[call_safe] theorem cpr_safe : T.cpr.safe m := by
  refine ⟨L.pos, L.pos, L.pos, ?_, ?_⟩ <;> (split <;> [exact L.pos; trivial])

@[call_safe] theorem ground_track_safe : T.ground_track.safe m := by
  refine ⟨L.pos, L.pos, L.pos, ?_⟩
  split
  · next h => exact mul_lt (L.frv_lt (Option.eq_some_of_filter_eq_some h)).2
  · trivial

@[call_safe] theorem heading_safe : T.heading.safe m := ⟨L.pos, L.pos⟩

@[call_safe] theorem roll_angle_5_0_safe : T.roll_angle_5_0.safe m := by
  refine ⟨L.pos, L.pos, L.pos, L.pos, ?_⟩
  split
  · next h => exact roll_angle_safe (L.sfrv_lt h).2
  · trivial

@[call_safe] theorem track_angle_5_0_safe : T.track_angle_5_0.safe m := by
  refine ⟨L.pos, L.pos, L.pos, L.pos, ?_⟩
  split
  · next h => exact track_angle_safe (L.sfrv_lt h).2
  · trivial

@[call_safe] theorem track_angle_rate_5_0_safe : T.track_angle_rate_5_0.safe m := by
  refine ⟨L.pos, L.pos, L.pos, L.pos, ?_⟩
  split
  · next h => exact track_angle_rate_safe (L.sfrv_lt h).2
  · trivial

@[call_safe] theorem ground_speed_5_0_safe : T.ground_speed_5_0.safe m := by
  refine ⟨L.pos, L.pos, L.pos, ?_⟩
  split
  · next h => exact mul_lt (L.frv_lt (Option.eq_some_of_filter_eq_some h)).2
  · trivial

@[call_safe] theorem true_airspeed_5_0_safe : T.true_airspeed_5_0.safe m := by
  refine ⟨L.pos, L.pos, L.pos, ?_⟩
  split
  · next h => exact mul_lt (L.frv_lt (Option.eq_some_of_filter_eq_some h)).2
  · trivial

@[call_safe] theorem magnetic_heading_6_0_safe : T.magnetic_heading_6_0.safe m := by
  refine ⟨L.pos, L.pos, L.pos, L.pos, ?_⟩
  split
  · next h => exact magnetic_heading_safe (L.sfrv_lt h).2
  · trivial

@[call_safe] theorem barometric_altitude_rate_6_0_safe : T.barometric_altitude_rate_6_0.safe m := by
  refine ⟨L.pos, L.pos, L.pos, L.pos, ?_⟩
  split
  · next h => exact barometric_altitude_rate_safe (L.sfrv_lt h).2
  · trivial

@[call_safe] theorem internal_vertical_velocity_6_0_safe : T.internal_vertical_velocity_6_0.safe m := by
  refine ⟨L.pos, L.pos, L.pos, L.pos, ?_⟩
  split
  · next h => exact internal_vertical_velocity_safe (L.sfrv_lt h).2
  · trivial

@[call_safe] theorem mcp_selected_altitude_safe : T.mcp_selected_altitude.safe m := by
  refine ⟨L.pos, L.pos, L.pos, ?_⟩
  split
  · next h => exact mul_lt (L.frv_lt (Option.eq_some_of_filter_eq_some h)).2
  · trivial

@[call_safe] theorem fms_selected_altitude_safe : T.fms_selected_altitude.safe m := by
  refine ⟨L.pos, L.pos, L.pos, ?_⟩
  split
  · next h => exact mul_lt (L.frv_lt (Option.eq_some_of_filter_eq_some h)).2
  · trivial

@[call_safe] theorem barometric_pressure_setting_safe : T.barometric_pressure_setting.safe m := by
  refine ⟨L.pos, L.pos, L.pos, ?_, ?_, ?_⟩ <;> split <;> try trivial
  · exact fun _ => by decide
  · next h =>
    exact fun _ => Nat.add_lt_of_lt_sub (Nat.lt_of_le_of_lt (Nat.div_le_self ..) (Nat.lt_trans (L.frv_lt h).2 (by decide)))
  · exact fun _ => by decide

@[call_safe] theorem temperature_4_4_safe : T.temperature_4_4.safe m := by
  refine ⟨L.pos, L.pos, L.pos, ?_⟩
  split
  · next h => exact temp_4_4_safe (L.frv_lt h).2
  · trivial

@[call_safe] theorem wind_speed_safe : T.wind_speed.safe m := ⟨L.pos, L.pos, L.pos⟩

@[call_safe] theorem wind_direction_safe : T.wind_direction.safe m := by
  refine ⟨L.pos, L.pos, L.pos, ?_⟩
  split
  · next h => exact mul_lt (L.frv_lt (Option.eq_some_of_filter_eq_some h)).2
  · trivial

@[call_safe] theorem wind_4_4_safe : T.wind_4_4.safe m := by
  unfold T.wind_4_4.safe
  refine ⟨?_, ?_⟩ <;> peel <;> simp only [call_safe, L]

@[call_safe] theorem humidity_4_4_safe : T.humidity_4_4.safe m := by
  refine ⟨L.pos, L.pos, L.pos, ?_⟩
  split
  · next h => exact mul_lt (L.frv_lt (Option.eq_some_of_filter_eq_some h)).2
  · trivial

@[call_safe] theorem temperature_4_5_safe : T.temperature_4_5.safe m := by
  refine ⟨L.pos, L.pos, L.pos, L.pos, ?_⟩
  split <;> trivial

@[call_safe] theorem bds_safe : T.bds.safe m := by
  unfold T.bds.safe; rw [L.len]
  refine ⟨by decide, by decide, ?_, ?_, ?_, ?_, ?_⟩ <;> peel <;> decide

@[call_safe] theorem goodflags_safe (f s e : Nat) :
    T.goodflags.safe m f s e ↔ (1 ≤ f ∧ f ≤ 112) ∧ (1 ≤ s ∧ s ≤ 112) ∧ (1 ≤ e ∧ e ≤ 112) := by
  unfold T.goodflags.safe; rw [L.len]

@[call_safe] theorem is_bds_1_7_safe : T.is_bds_1_7.safe m := by
  refine ⟨L.pos, L.pos, L.pos, ?_, ?_, ?_⟩ <;> peel <;> exact L.pos

@[call_safe] theorem is_bds_4_0_safe : T.is_bds_4_0.safe m := by
  unfold T.is_bds_4_0.safe
  simp only [call_safe, L, Nat.reduceLeDiff, implies_true, true_and]

@[call_safe] theorem is_bds_5_0_safe : T.is_bds_5_0.safe m := by
  unfold T.is_bds_5_0.safe
  simp only [call_safe, L, Nat.reduceLeDiff, implies_true, true_and]

@[call_safe] theorem is_bds_6_0_safe : T.is_bds_6_0.safe m := by
  unfold T.is_bds_6_0.safe
  simp only [call_safe, L, Nat.reduceLeDiff, implies_true, true_and]

@[call_safe] theorem is_bds_4_4_safe : T.is_bds_4_4.safe m := by
  unfold T.is_bds_4_4.safe; rw [L.len]
  refine ⟨by decide, by decide, ?_, ?_, ?_, ?_, ?_, ?_, ?_, ?_, ?_, ?_, ?_⟩ <;> peel <;>
    simp only [call_safe, L, Nat.reduceLeDiff, true_and]

@[call_safe] theorem is_bds_4_5_safe : T.is_bds_4_5.safe m := by
  unfold T.is_bds_4_5.safe
  simp only [call_safe, L, Nat.reduceLeDiff, implies_true, true_and]

end

theorem altitude_safe (m : Msg) (df : Nat) (L : df = 17 → Long m) : T.altitude.safe m df := by
  refine ⟨fun h => me_code_safe m (L h), altitude_value_safe m _ fun c hc => ?_⟩
  split at hc
  · rw [me_code_eq] at hc
    obtain ⟨_, _, rfl⟩ := Option.map_eq_some_iff.1 hc
    exact Nat.mod_lt _ (by decide)
  · cases hc; exact Nat.lt_trans (maCode_lt m) (by decide)

attribute [call_safe] squawk_safe altitude_safe

theorem get_capability_safe (m : Msg) (h : 2 ≤ m.length) : T.get_capability.safe m := h

@[call_safe] theorem get_message_type_safe (m : Msg) (L : Long m) : T.get_message_type.safe m :=
  ⟨L.digit, mul_lt (nib_lt m L.nib 8), L.digit⟩

theorem srt_update_safe (self : T.Srt) (m : Msg) (h : 2 ≤ m.length) : T.Srt.update.safe self m := by
  unfold T.Srt.update.safe
  refine ⟨?_, ?_, ?_⟩ <;> peel
  · next h4 => exact altitude_safe m _ fun h17 => absurd (h4.symm.trans h17) (by decide)
  · exact squawk_safe m
  · exact h

theorem srt_from_message_safe (m : Msg) (h : 2 ≤ m.length) : T.Srt.from_message.safe m :=
  ⟨trivial, srt_update_safe _ m h⟩

@[call_safe] theorem ext_update_mt_5_18_safe (self : T.Ext) (m : Msg) (L : Long m) (df : Nat) : T.Ext.update_mt_5_18.safe self m df := by
  unfold T.Ext.update_mt_5_18.safe
  simp only [call_safe, L, implies_true, true_and]

@[call_safe] theorem ext_update_mt_19_safe (te : TEnv) (self : T.Ext) (m : Msg) (L : Long m) : T.Ext.update_mt_19.safe te self m := by
  unfold T.Ext.update_mt_19.safe
  simp only [call_safe, L, implies_true, true_and]

@[call_safe] theorem ext_update_mt_20_22_safe (self : T.Ext) (m : Msg) (L : Long m) : T.Ext.update_mt_20_22.safe self m := by
  unfold T.Ext.update_mt_20_22.safe
  simp only [call_safe, L, true_and]

@[call_safe] theorem ext_update_mt_31_safe (self : T.Ext) (m : Msg) (L : Long m) : T.Ext.update_mt_31.safe self m := version_safe m L

theorem ext_update_safe (te : TEnv) (self : T.Ext) (m : Msg) (L : Long m) : T.Ext.update.safe te self m := by
  unfold T.Ext.update.safe
  refine ⟨?_, ?_, ?_, ?_, ?_, ?_, ?_⟩ <;> peel <;> simp only [call_safe, L, get_capability_safe m L.digit]

theorem ext_from_message_safe (te : TEnv) (m : Msg) (L : Long m) : T.Ext.from_message.safe te m :=
  ⟨trivial, ext_update_safe te _ m L⟩

theorem mds_update_safe (self : T.Mds) (m : Msg) (L : Long m) : T.Mds.update.safe self m := by
  unfold T.Mds.update.safe
  refine ⟨?_, ?_, ?_, ?_, ?_, ?_, ?_, ?_, ?_⟩ <;> peel <;> simp only [call_safe, L, implies_true]

theorem mds_from_message_safe (m : Msg) (L : Long m) : T.Mds.from_message.safe m :=
  ⟨trivial, mds_update_safe _ m L⟩

theorem df_from_message_safe (te : TEnv) (m : Msg) (A : Accepted m) : T.DF.from_message.safe te m := by
  unfold T.DF.from_message.safe
  refine ⟨?_, ?_, ?_, ?_⟩ <;> peel
  · exact srt_from_message_safe m (Nat.le_trans (by decide) A.le_length)
  · next hv h => exact ext_from_message_safe te m (A.longU hv (.inl h.2))
  · next hv h => exact mds_from_message_safe m (A.longU hv (.inr (.inr h.2.2)))

/-- the only row field that enters trapping arithmetic (`altitude as i32 + altitude_delta`, on the `-U` path `Plane::update`
    and on the default path alike) is a barometric altitude the decoder can have produced -/
def AltOK (p : T.Plane) : Prop := ∀ a, p.altitude = some a → a < 100000

theorem altitude_lt (m : Msg) (df a : Nat) (h : T.altitude m df = some a) : a < 100000 := by
  obtain ⟨b, _, hb⟩ := Option.bind_eq_some_iff.1 h
  split at hb
  · cases hb; assumption
  · cases hb

/-- every altitude the decoder can produce is below 100 000 ft (model side of `altitude_lt`) -/
theorem sqAltitude_lt (m : Msg) (df a : Nat) (h : Sq.altitude m df = some a) : a < 100000 :=
  altitude_lt m df a ((altitude_eq m df).trans h)

theorem altitude_delta_bound (m : Msg) (L : Long m) (d : Int) (h : T.altitude_delta m = some d) : -3200 ≤ d ∧ d ≤ 3200 := by
  obtain ⟨⟨s, v⟩, hv, rfl⟩ := Option.map_eq_some_iff.1 h
  have hv : v < 128 := (L.frv_lt (Option.eq_some_of_filter_eq_some hv)).2
  simp only [T.delta, u32ToI32_of_lt hv]
  split <;> omega

theorem gnss_add_ok {a : Nat} {d : Int} (ha : a < 100000) (hd : -3200 ≤ d ∧ d ≤ 3200) :
    -(2:Int)^31 ≤ (u32ToI32 a) + d ∧ (u32ToI32 a) + d < (2:Int)^31 := by
  rw [u32ToI32_of_lt ha]; omega

theorem update_from_ext_19_safe (te : TEnv) (self : T.Plane) (m : Msg) (L : Long m) (st : Nat) (hA : AltOK self) :
    T.Plane.update_from_ext_19.safe te self m st := by
  unfold T.Plane.update_from_ext_19.safe
  refine ⟨vertical_rate_safe m L, ?_, ?_, ?_⟩ <;> peel
  · exact altitude_delta_safe m L
  · next _ a ha _ d hd => exact gnss_add_ok (hA a ha) (altitude_delta_bound m L d hd)
  · exact heading_safe m L

theorem update_position_safe (te : TEnv) (self : T.Plane) (mt form : Nat) (hf : form ≤ 1) :
    T.Plane.update_position.safe te self mt form :=
  ⟨fun _ _ => cpr_location_safe _ _ form 4 hf (Or.inr rfl), fun _ _ => cpr_location_safe _ _ form 1 hf (Or.inl rfl)⟩

@[call_safe] theorem update_cpr_safe (te : TEnv) (self : T.Plane) (m : Msg) (L : Long m) (mt : Nat) : T.Plane.update_cpr.safe te self m mt := by
  unfold T.Plane.update_cpr.safe
  refine ⟨cpr_safe m L, ?_, ?_, ?_, ?_, ?_⟩ <;> peel
  -- what the filter lets through has a one-bit format: four index obligations, then the call
  all_goals
    have hf := (Option.filter_eq_some_iff.1 ‹Option.filter _ _ = some _›).2
    replace hf := (of_decide_eq_true hf).2
  iterate 4 exact Nat.lt_succ_of_le hf
  exact update_position_safe te _ _ _ hf

@[call_safe] theorem update_from_ext_5_8_safe (te : TEnv) (self : T.Plane) (m : Msg) (L : Long m) (mt : Nat) :
    T.Plane.update_from_ext_5_8.safe te self m mt := by
  unfold T.Plane.update_from_ext_5_8.safe
  simp only [call_safe, L, true_and]

@[call_safe] theorem update_from_ext_9_18_safe (te : TEnv) (self : T.Plane) (m : Msg) (L : Long m) (mt df : Nat) :
    T.Plane.update_from_ext_9_18.safe te self m mt df := by
  unfold T.Plane.update_from_ext_9_18.safe
  simp only [call_safe, L, implies_true, true_and]

@[call_safe] theorem update_from_ext_20_22_safe (self : T.Plane) (m : Msg) (L : Long m) : T.Plane.update_from_ext_20_22.safe self m :=
  ⟨altitude_gnss_safe m L, surveillance_status_safe m L⟩

@[call_safe] theorem update_from_ext_31_safe (self : T.Plane) (m : Msg) (L : Long m) : T.Plane.update_from_ext_31.safe self m := version_safe m L

theorem update_from_ext_safe (te : TEnv) (self : T.Plane) (m : Msg) (L : Long m) (df : Nat) (hA : AltOK self) :
    T.Plane.update_from_ext.safe te self m df := by
  unfold T.Plane.update_from_ext.safe
  refine ⟨get_message_type_safe m L, ?_, ?_, ?_, ?_, ?_, ?_⟩ <;> peel
  exacts [update_from_ext_5_8_safe te _ m L _, update_from_ext_9_18_safe te _ m L _ df, update_from_ext_19_safe te _ m L _ hA,
    update_from_ext_20_22_safe _ m L, update_from_ext_31_safe _ m L]

theorem update_from_bcast_safe (self : T.Plane) (m : Msg) (df : Nat) (h2 : 2 ≤ m.length) (hL : df = 17 → Long m) :
    T.Plane.update_from_bcast.safe self m df :=
  ⟨fun _ => altitude_safe m df hL, fun _ => squawk_safe m, fun _ => h2⟩

theorem update_from_bcast_altOK (self : T.Plane) (m : Msg) (df : Nat) (hA : AltOK self) : AltOK (T.Plane.update_from_bcast self m df) :=
  have keep {c : Prop} [Decidable c] {s t : T.Plane} (h : t.altitude = s.altitude) (hs : AltOK s) : AltOK (if c then t else s) :=
    ite_ind AltOK (fun a ha => hs a (h ▸ ha)) hs
  keep rfl (keep rfl (ite_ind AltOK (altitude_lt m df) hA))

theorem update_from_mode_s_safe (self : T.Plane) (m : Msg) (L : Long m) (df : Nat) (r : Bool) : T.Plane.update_from_mode_s.safe self m df r := by
  unfold T.Plane.update_from_mode_s.safe
  refine ⟨?_, ?_, ?_, ?_, ?_, ?_, ?_, ?_⟩ <;> peel <;> simp only [call_safe, L]

theorem update_safe (now : Int) (te : TEnv) (self : T.Plane) (m : Msg) (df : Nat) (r : Bool) (hA : AltOK self) (h2 : 2 ≤ m.length)
    (hL : (df = 17 ∨ df = 18 ∨ df = 20 ∨ df = 21) → Long m) : T.Plane.update.safe now te self m df r :=
  ⟨update_from_bcast_safe _ m df h2 fun h => hL (.inl h),
    fun h => update_from_ext_safe te _ m (hL (h.imp_right .inl)) df (update_from_bcast_altOK _ m df hA),
    fun h => update_from_mode_s_safe _ m (hL (.inr (.inr h.2))) df r⟩

theorem plane_new_safe (now : Int) : T.Plane.new.safe now := trivial

theorem new_altOK (now : Int) : AltOK (T.Plane.new now) := nofun

/-- what the default path reads from an extended-squitter record and feeds into trapping operations -/
def ExtOK (d : T.Ext) : Prop :=
  (∀ f la lo, d.cpr = some (f, la, lo) → f < 2) ∧ (∀ a, d.altitude = some a → a < 100000) ∧
  (∀ x, d.altitude_delta = some x → -3200 ≤ x ∧ x ≤ 3200)

theorem cpr_flag_lt (m : Msg) (L : Long m) (f la lo : Nat) (h : T.cpr m = some (f, la, lo)) : f < 2 := by
  unfold T.cpr at h
  split at h
  · next hq =>
    obtain ⟨_, _, he⟩ := Option.map_eq_some_iff.1 h
    cases he; exact (L.frv_lt hq).1
  · cases h

theorem ext_new_ok : ExtOK T.Ext.new := ⟨nofun, not_none, not_none⟩

/-- of the fields that enter trapping arithmetic, the model's record holds nothing but what the decoder returned: in every
    type-code class each is the default or the decoder's value -/
theorem ext_fromMessage_fields (env : Env) (m : Msg) :
    (∀ c, (Ext.fromMessage env m).cpr = some c → Sq.cpr m = some c) ∧
    (∀ a, (Ext.fromMessage env m).altitude = some a → ∃ df, Sq.altitude m df = some a) ∧
    (∀ d, (Ext.fromMessage env m).altitudeDelta = some d → Sq.altitudeDelta m = some d) := by
  cases h : getDownlinkFormat m with
  | none => unfold Ext.fromMessage; rw [h]; exact ⟨not_none, not_none, not_none⟩
  | some df =>
    rw [ext_fromMessage env m df h]
    -- the position classes set `cpr`, the airborne one `altitude`, the velocity class `altitudeDelta`
    cases tcClass _
    case surface => exact ⟨fun _ h => h, not_none, not_none⟩
    case airborne => exact ⟨fun _ h => h, fun _ h => ⟨_, h⟩, not_none⟩
    case velocity => exact ⟨not_none, not_none, fun _ h => h⟩
    all_goals exact ⟨not_none, not_none, not_none⟩

theorem ext_fromMessage_alt (env : Env) (m : Msg) (a : Nat) (h : (Ext.fromMessage env m).altitude = some a) : a < 100000 :=
  let ⟨df, e⟩ := (ext_fromMessage_fields env m).2.1 a h
  sqAltitude_lt m df a e

theorem ext_update_ok (te : TEnv) (m : Msg) (L : Long m) : ExtOK (T.Ext.update te T.Ext.new m) := by
  rw [ext_update_sim te m L]
  obtain ⟨hc, -, hd⟩ := ext_fromMessage_fields (envOfT te) m
  exact ⟨fun f la lo h => cpr_flag_lt m L f la lo (cpr_eq m ▸ hc _ h), ext_fromMessage_alt _ m,
    fun x h => altitude_delta_bound m L x (altitude_delta_eq m L ▸ hd x h)⟩

theorem ext_from_message_ok (te : TEnv) (m : Msg) (L : Long m) (d : T.Ext) (h : T.Ext.from_message te m = some d) : ExtOK d := by
  cases h; exact ext_update_ok te m L

theorem amend_from_ext_19_safe (self : T.Plane) (d : T.Ext) (hA : AltOK self) (hE : ExtOK d) : T.Plane.amend_from_ext_19.safe self d := by
  unfold T.Plane.amend_from_ext_19.safe
  peel
  next _ x hx _ a ha => exact gnss_add_ok (hA a ha) (hE.2.2 x hx)

theorem amend_cpr_safe (te : TEnv) (self : T.Plane) (d : T.Ext) (hE : ExtOK d) : T.Plane.amend_cpr.safe te self d := by
  unfold T.Plane.amend_cpr.safe
  refine ⟨?_, ?_, ?_, ?_, ?_⟩ <;> peel
  all_goals have hf := hE.1 _ _ _ ‹d.cpr = some _›
  iterate 4 exact hf
  exact update_position_safe te _ _ _ (Nat.le_of_lt_succ hf)

theorem amend_from_ext_5_8_safe (te : TEnv) (self : T.Plane) (d : T.Ext) (hE : ExtOK d) : T.Plane.amend_from_ext_5_8.safe te self d :=
  amend_cpr_safe te _ d hE

theorem amend_from_ext_9_18_safe (te : TEnv) (self : T.Plane) (d : T.Ext) (hE : ExtOK d) : T.Plane.amend_from_ext_9_18.safe te self d :=
  amend_cpr_safe te _ d hE

theorem update_from_downlink_Ext_safe (te : TEnv) (self : T.Plane) (d : T.Ext) (hA : AltOK self) (hE : ExtOK d) :
    T.Plane.update_from_downlink_Ext.safe te self d := by
  unfold T.Plane.update_from_downlink_Ext.safe
  refine ⟨?_, ?_, ?_, ?_, ?_, ?_⟩ <;> peel
  exacts [amend_from_ext_5_8_safe te _ d hE, amend_from_ext_9_18_safe te _ d hE, amend_from_ext_19_safe _ d hA hE]

/-- a record as `DF::from_message` builds it -/
def DfOK : T.DF → Prop
  | .EXT v => ExtOK v
  | _ => True

theorem update_from_downlink_DF_safe (now : Int) (te : TEnv) (self : T.Plane) (d : T.DF) (hA : AltOK self) (hD : DfOK d) :
    T.Plane.update_from_downlink_DF.safe now te self d := by
  unfold T.Plane.update_from_downlink_DF.safe
  refine ⟨?_, ?_, ?_⟩ <;> peel
  exact update_from_downlink_Ext_safe te _ _ hA hD

theorem from_downlink_safe (now : Int) (te : TEnv) (d : T.DF) (icao : Nat) (hD : DfOK d) : T.Plane.from_downlink.safe now te d icao :=
  ⟨trivial, update_from_downlink_DF_safe now te _ d nofun hD⟩

theorem from_message_safe (now : Int) (te : TEnv) (m : Msg) (df icao : Nat) (r : Bool) (h2 : 2 ≤ m.length)
    (hL : (df = 17 ∨ df = 18 ∨ df = 20 ∨ df = 21) → Long m) : T.Plane.from_message.safe now te m df icao r :=
  ⟨trivial, update_safe now te _ m df r nofun h2 hL⟩

def TableOK (t : T.Planes) : Prop := ∀ kv ∈ t.aircrafts, AltOK kv.2

theorem update_aircraft_safe (now : Int) (te : TEnv) (t : T.Planes) (d : T.DF) (m : Msg) (df icao : Nat) (a : T.Args)
    (hT : TableOK t) (hD : DfOK d) (h2 : 2 ≤ m.length) (hL : (df = 17 ∨ df = 18 ∨ df = 20 ∨ df = 21) → Long m) :
    T.Planes.update_aircraft.safe now te t d m df icao a :=
  ⟨fun kv hkv _ => update_from_downlink_DF_safe now te _ d (hT kv hkv) hD,
    fun kv hkv _ => update_safe now te _ m df a.relaxed (hT kv hkv) h2 hL, from_downlink_safe now te d icao hD⟩

/-- the counters: no DF has been counted 2^31 - 1 times yet, and the sweep counter is where the sweep leaves it -/
def CountOK (c : T.AppCounters) : Prop :=
  (∀ kc ∈ c.df_count, -(2:Int)^31 ≤ kc.2 + 1 ∧ kc.2 + 1 < (2:Int)^31) ∧ c.cleanup_count ≤ 11

theorem increment_cleanup_count_safe {c : T.AppCounters} (h : c.cleanup_count ≤ 11) : T.AppCounters.increment_cleanup_count.safe c :=
  Nat.lt_of_le_of_lt (Nat.succ_le_succ h) (by decide)

/-- the sweep counter is incremented where the sweep left it, at 0, or where it stood, at 11 at most -/
theorem cleanup_safe (t : T.Planes) (c : T.AppCounters) (now da : Int) (h : c.cleanup_count ≤ 11) : T.Planes.cleanup.safe t c now da :=
  ⟨fun _ => trivial, ite_ind (T.AppCounters.increment_cleanup_count.safe ∘ Prod.fst)
    (increment_cleanup_count_safe (Nat.zero_le 11)) (increment_cleanup_count_safe h)⟩

theorem get_message_accepted (cs : List Char) (m : Msg) (h : T.get_message cs = some m) : Accepted m :=
  .of_digits (fun _ hx => let ⟨c, _, hc⟩ := List.mem_filterMap.1 hx; hexVal_lt (charToDigit16_eq c ▸ hc)) (get_message_eq cs ▸ h)

theorem df_from_message_ok (te : TEnv) (m : Msg) (A : Accepted m) (d : T.DF) (h : T.DF.from_message te m = some d) : DfOK d := by
  obtain ⟨v, hv, -⟩ := A.fits
  unfold T.DF.from_message at h
  rw [hv] at h
  by_cases h17 : v = 17
  · subst h17
    cases h
    exact ext_update_ok te m (A.long hv (by decide))
  · -- any other format: an arm that ends in `SRT` or `MDS`, under the `?` of the source
    dsimp only at h
    rw [if_neg h17] at h
    split at h <;> cases h
    next heq =>
    revert heq
    refine ite_ind (· = some d → DfOK d) ?_ (ite_ind (· = some d → DfOK d) ?_ ?_) <;> intro e <;> cases e <;> trivial

theorem update_count_safe (c : T.AppCounters) (df : Nat) (h : CountOK c) : T.AppCounters.update_count.safe c df := h.1

/-- **One iteration of the reader loop cannot trap** - for every line (any characters), every option set, every table whose
    rows carry decoder-made altitudes and counters that have not been incremented 2^31 - 1 times: no unsigned subtraction
    underflows, no `+`/`*` overflows its integer type, no shift is over-wide, no index is out of range, no `expect` meets
    `None`, as far as `T.read_lines_step.safe` and the propositions it refers to say (regenerated from the source; the
    comment above `C01.no_trap_per_line` names the calls for which the generated propositions ask nothing). -/
theorem read_lines_step_safe (now : Int) (te : TEnv) (line : List Char) (a : T.Args) (t : T.Planes) (c : T.AppCounters)
    (hT : TableOK t) (hC : CountOK c) : T.read_lines_step.safe now te line a t c := by
  unfold T.read_lines_step.safe
  refine ⟨get_message_safe line, ?_, ?_, ?_, ?_⟩ <;> peel
  all_goals have A := get_message_accepted line _ ‹T.get_message line = some _›
  · exact update_count_safe c _ hC
  · exact df_from_message_safe te _ A
  · exact update_aircraft_safe now te t _ _ _ _ a hT (df_from_message_ok te _ A _ ‹_›) (Nat.le_trans (by decide) A.le_length)
      (A.longU ‹getDownlinkFormat _ = some _›)
  · exact cleanup_safe _ _ _ _ (ite_ind (T.AppCounters.cleanup_count · ≤ 11) hC.2 hC.2)

end Sq.Safe
