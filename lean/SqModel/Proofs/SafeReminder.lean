/-
Trap-freedom of the translated `reminder` (crc.rs): every index of its nested loops over the byte vector is inside the
vector, for every vector of at least 6 and fewer than 2^32 - 4 digits.  The obligations (`Generated/TransSafe.lean`) speak
about the state each iteration really starts in (the fold of the iterations before it); the invariant is that the loops
never change the length.
-/
import SqModel.Generated.TransSafe
import SqModel.Proofs.Reminder

namespace Sq.Safe
open Sq

theorem foldl_len {α : Type} (f : List Nat → α → List Nat) (l : List α) (hf : ∀ bs a, (f bs a).length = bs.length)
    (init : List Nat) : (l.foldl f init).length = init.length :=
  List.foldlRecOn (motive := fun bs => bs.length = init.length) l f rfl fun bs h a _ => (hf bs a).trans h

/-- one pass of the inner loop body: four assignments, or none -/
theorem set4_len {c : Prop} [Decidable c] {bs : List Nat} {i0 i1 i2 i3 v0 v1 v2 v3 : Nat} :
    (if c then (((bs.set i0 v0).set i1 v1).set i2 v2).set i3 v3 else bs).length = bs.length := by
  split <;> simp only [List.length_set]

/-- what the loop body asks of its counters, in the form in which an obligation has them (`i = 0 + i_k` for the `i_k`-th pass
    of the outer loop, which stops six digits before the end; `j = 0 + j_k` for a bit of a byte): `i + 3` inside a vector of
    `n` digits and inside `u32`, `j` and `8 - j` shifts below the width -/
theorem loop_idx {i j i_k j_k n : Nat} (ei : i = 0 + i_k) (ej : j = 0 + j_k) (hi : i_k < n - 6 - 0) (hj : j_k < 8 - 0)
    (hN : n < 4294967296 - 4) :
    (i < n ∧ i + 1 < n ∧ i + 2 < n ∧ i + 3 < n) ∧ (i + 1 < 2 ^ 32 ∧ i + 2 < 2 ^ 32 ∧ i + 3 < 2 ^ 32) ∧
    (j < 32 ∧ j < 16 ∧ j ≤ 8 ∧ 8 - j < 16) := by
  subst ei ej
  omega

/-- and what the reads of the last three digits ask -/
theorem tail_idx {n : Nat} (h6 : 6 ≤ n) : (1 ≤ n ∧ 2 ≤ n ∧ 3 ≤ n) ∧ (n - 1 < n ∧ n - 2 < n ∧ n - 3 < n) := by omega

/- The generator, the padded vector and the vector the loops leave behind (`Z`) are the same in every obligation: they are
   taken out once.  An obligation of the loop body is about the state inside iteration `i_k` of the outer loop and `j_k` of
   the inner one (`Y`): only its length matters, and the counters (`let` variables like the states: `i = 0 + i_k` is `rfl`).
   Each obligation is then one of the facts of `loop_idx` / `tail_idx`, which `simp` looks up; the states stay folded
   (`simp only` does not unfold a `let` variable, and nothing here rewrites in the context, which would have to abstract them). -/
theorem reminder_safe (m : Msg) (h6 : 6 ≤ m.length) (hN : m.length < 4294967296 - 4) : T.reminder.safe m := by
  unfold T.reminder.safe
  extract_lets g b0 b1 Z
  have hg : g.length = 4 := rfl
  -- `b1` is the vector of `init_tail`, written with `drop 0` and `- 0`
  have h1 : b1.length = m.length := (init_tail m _ h6).1
  have hZ : Z.length = b1.length := foldl_len _ _ (fun _ _ => foldl_len _ _ (fun _ _ => set4_len) _) _
  refine ⟨h6, Nat.zero_le _, Nat.sub_le _ _, h1 ▸ h6, ?_⟩
  -- from here on the length is that of `b1`, as the obligations have it
  rw [← h1] at h6 hN
  and_intros
  -- the 26 obligations of the loop body (as many as the generated proposition has), then those of the tail
  iterate 26
    · intro i_k hi X i j_k hj Y j
      have hY : Y.length = b1.length :=
        (foldl_len _ _ (fun _ _ => set4_len) _).trans (foldl_len _ _ (fun _ _ => foldl_len _ _ (fun _ _ => set4_len) _) _)
      simp only [List.length_set, hY, hg, loop_idx (i := i) (j := j) rfl rfl hi hj hN, Nat.reduceLT, implies_true]
  all_goals simp only [hZ, tail_idx h6]

end Sq.Safe
