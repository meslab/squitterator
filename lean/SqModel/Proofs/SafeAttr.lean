import Lean.Meta.Tactic.Simp.RegisterCommand

/-- trap-freedom of a translated function, in the form in which a caller's obligation mentions it (`T.f.safe args`, for a
    decoder under `Long m`): `simp only [call_safe, L]` then discharges the obligations a function has for its calls -/
register_simp_attr call_safe
