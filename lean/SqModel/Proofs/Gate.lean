/-
The gate of `get_message` against the specification.  Whole-frame parity: the remainder of a frame is the CRC of its
data bits xor its last 24 bits (`syndrome_frame`); what `parity_ok` computes from a frame that has the length its format
asks for (`Gated`, `Proofs/Accept.lean`): `syndromeOf_eq`, `parityOk_eq`; and with these `get_message` is the
specification's `acceptDigits` on the digits of the line (`getMessage_eq_spec`), so that what it returns is `Gated`.
From these: the address recovered from AP formats (C03) and the parity gate of squitters (C04) are what the
specification says.
-/
import SqModel.Proofs.Crc
import SqModel.Proofs.Accept
import SqModel.Proofs.Reminder
import SqModel.Model.Frame

namespace Sq
open Spec

/-- 24 bits shifted into an empty register are not reduced: both sides are linear, and a unit vector is bit 0 moved up,
    in the register as in the list -/
theorem syndrome_bits24 (x : BitVec 24) : syndrome (bvBits x) = x := by
  have hstep : ∀ i, i < 24 - 1 → specStep (BitVec.twoPow 24 i) false = BitVec.twoPow 24 (i + 1) := by decide +kernel
  have h0 : specStep 0 true = BitVec.twoPow 24 0 := by decide
  exact linear_ext (fun x => syndrome (bvBits x)) id
    (fun a b => by rw [bvBits_xor]; exact syndrome_xor _ _ (by rw [bvBits_length, bvBits_length]))
    (fun _ _ => rfl) (fun i hi => by
      rw [syndrome_twoPow 24 i hi, h0]
      exact (iter_load_twoPow id (specStep · false) hstep 0 i hi).symm) x

theorem syndrome_append (d : List Bool) (p : BitVec 24) :
    syndrome (d ++ bvBits p) = crc24 d ^^^ p := by
  -- by linearity, `p` passes through the last 24 steps beside the data's remainder
  have := foldl_specStep_xor (bvBits 0#24) (bvBits p) (by rw [bvBits_length, bvBits_length]) (syndrome d) 0#24
  rw [← bvBits_xor, BitVec.zero_xor, BitVec.xor_zero, show bvBits 0#24 = List.replicate 24 false by decide] at this
  unfold crc24
  unfold syndrome at this ⊢
  rw [List.foldl_append, List.foldl_append, this]
  exact congrArg _ (syndrome_bits24 p)

theorem syndrome_frame (m : Msg) (h24 : 24 ≤ 4 * m.length) :
    (syndrome (bitsOf m 1 (4 * m.length))).toNat
      = field m (4 * m.length - 23) (4 * m.length) ^^^ (crc24 (bitsOf m 1 (4 * m.length - 24))).toNat := by
  obtain ⟨a, ha⟩ := Nat.exists_eq_add_of_le' h24
  have hsplit : bitsOf m 1 (a + 24) = bitsOf m 1 a ++ (List.range' (a + 1) 24).map (bit m) := by
    unfold bitsOf
    rw [Nat.add_sub_cancel, Nat.add_sub_cancel, Nat.add_comm a 1, ← List.map_append, List.range'_append_1]
  rw [ha, Nat.add_sub_cancel, show a + 24 - 23 = a + 1 by omega, hsplit, ← bvBits_field m a 24 (Nat.le_of_eq ha.symm),
    syndrome_append, BitVec.toNat_xor, BitVec.toNat_ofNat, Nat.mod_eq_of_lt (field_tail_lt m a 24), Nat.xor_comm]

theorem getCrc_eq (m : Msg) (g : Gated m) :
    getCrc m (Spec.df m) = (crc24 (bitsOf m 1 (4 * m.length - 24))).toNat := by
  unfold getCrc
  rcases g.len with ⟨hd, hl⟩ | ⟨hd, hl⟩
  · rw [if_pos (by omega), crc56_eq_spec m g.nib (by omega), hl]
  · rw [if_neg (by omega), crc112_eq_spec m g.nib (by omega), hl]

theorem syndromeOf_eq (m : Msg) (g : Gated m) :
    syndromeOf m (Spec.df m)
      = some (field m (4 * m.length - 23) (4 * m.length) ^^^ (crc24 (bitsOf m 1 (4 * m.length - 24))).toNat) := by
  have := g.length
  unfold syndromeOf
  simp only [Nat.mul_comm m.length]   -- the code writes `len * 4`, the field lemmas `4 * len`
  rw [rangeValue_eq_field m g.nib _ _ (by omega) (by omega) (Nat.le_refl _), Option.map_some,
    getCrc_eq m g]

theorem parityOk_eq (m : Msg) (g : Gated m) : parityOk m = Spec.parityOK m := by
  have := g.length
  have hs := syndromeOf_eq m g
  rw [← syndrome_frame m (by omega)] at hs
  unfold parityOk Spec.parityOK
  rw [getDownlinkFormat_eq m g.nib (by omega)]
  -- in each arm `df m` is the arm's literal, so that `hs` speaks of the `syndromeOf` the arm reads
  split <;> simp_all

theorem acceptDigits_eq_some_iff (d m : Msg) :
    acceptDigits d = some m ↔ frameOf d = some m ∧ Spec.lengthMatchesDF m = true ∧ Spec.parityOK m = true := by
  -- the specification's `match` is a filter, as the model's chain is
  have e : acceptDigits d = (frameOf d).filter fun m => Spec.lengthMatchesDF m && Spec.parityOK m := by
    unfold acceptDigits
    cases frameOf d <;> rfl
  rw [e, Option.filter_eq_some_iff, Bool.and_eq_true]

theorem messageOfDigits_eq_spec (d : Msg) (hd : AllNib d) : messageOfDigits d = acceptDigits d := by
  ext m
  rw [messageOfDigits_eq_some_iff, acceptDigits_eq_some_iff, ← cleanDigits_eq_frameOf]
  refine and_congr_right fun hc => ?_
  have hn := cleanDigits_allNib hd hc
  have hl := (cleanDigits_some hc).1
  -- the length filter and `reminder` never reject; the other two filters are the specification's conditions
  rw [and_iff_right hl, lengthMatchesDF_eq m hn (by omega), and_iff_right (reminder_eq_zero m (by omega))]
  exact and_congr_right fun hg => by rw [parityOk_eq m (gated_of_lengthMatches m hn hg)]

theorem getMessage_eq_spec (line : List Nat) : getMessage line = acceptDigits (hexDigits line) :=
  messageOfDigits_eq_spec _ (hexDigits_allNib line)

/-- what an accepted line hands to the decoder: a gated digit vector and its DF -/
theorem getMessage_gated (line : List Nat) (m : Msg) (h : getMessage line = some m) :
    Gated m ∧ getDownlinkFormat m = some (Spec.df m) := by
  have hn := getMessage_allNib h
  have g := gated_of_lengthMatches m hn
    ((acceptDigits_eq_some_iff _ m).mp ((getMessage_eq_spec line).symm.trans h)).2.1
  have := g.length
  exact ⟨g, getDownlinkFormat_eq m hn (by omega)⟩

end Sq
