/-
Exhaustive kernel evaluation over a whole bit field: `allLt p lo k` checks `p` on
`lo .. lo + 2^k - 1` by binary splitting, so that `decide +kernel` neither overflows the
kernel's recursion depth nor needs an axiom.
-/
namespace Sq

def allLt (p : Nat → Bool) : Nat → Nat → Bool
  | lo, 0 => p lo
  | lo, k + 1 => allLt p lo k && allLt p (lo + 2 ^ k) k

theorem allLt_spec (p : Nat → Bool) : ∀ k lo, allLt p lo k = true →
    ∀ i, lo ≤ i → i < lo + 2 ^ k → p i = true := by
  intro k
  induction k with
  | zero => exact fun lo h i h1 h2 => Nat.le_antisymm (Nat.le_of_lt_succ h2) h1 ▸ h
  | succ k ih =>
    intro lo h i h1 h2
    rw [allLt, Bool.and_eq_true] at h
    rcases Nat.lt_or_ge i (lo + 2 ^ k) with hi | hi
    · exact ih lo h.1 i h1 hi
    · exact ih _ h.2 i hi (by rwa [Nat.add_assoc, ← Nat.two_mul, ← Nat.pow_succ'])

end Sq
