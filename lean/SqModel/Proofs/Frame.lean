/-
"Modifies" theorems for the row-update functions: outside an explicit set of fields, the row a
function returns is the row it was given.  `eraseX p` overwrites exactly the fields function
group X may assign; `eraseX (f p) = eraseX p` (call it `h`) then says f touches nothing else, and
`of_erase h fun _ => rfl` is `g (f p) = g p` for any projection `g` outside the set.

Where one eraser is written over another (`eraseRegs` over `eraseModeS`, `eraseUpd`, the per-format ones of
Formats.lean over `eraseStamp`), an equation between erased rows is closed by `delta <the erasers>; rfl`: `rfl` alone
compares the inner erasers as wholes, once for every field, before it unfolds them.
-/
import SqModel.Model.Table
import SqModel.Proofs.Downlink
import SqModel.Proofs.Stage

namespace Sq

theorem of_erase {α : Type} {e : Plane → Plane} {f : Plane → α} {x y : Plane} (h : e x = e y)
    (hf : ∀ q, f (e q) = f q) : f x = f y := by rw [← hf x, h, hf]

/-- fields an extended squitter may assign (either path) -/
def eraseExt (p : Plane) : Plane :=
  { p with lastTypeCode := 0, cap0 := 0, ais := none, category := (0, 0), groundMovement := none,
           altitude := none, altitudeSource := ' ', track := none, trackSource := ' ',
           cprLat0 := 0, cprLat1 := 0, cprLon0 := 0, cprLon1 := 0, cprTime0 := 0, cprTime1 := 0, cprSurf0 := false, cprSurf1 := false,
           lat := 0, lon := 0, distance := none, positionTimestamp := none,
           surveillanceStatus := ' ', vrate := none, vrateSource := ' ', altitudeGnss := none,
           grspeed := none, heading := none, headingSource := ' ', adsbVersion := none }

/-- fields a Comm-B reply may assign through its MB field -/
def eraseModeS (p : Plane) : Plane :=
  { p with ais := none, threatEncounter := none, cap1 := {}, selectedAltitude := none,
           targetAltitudeSource := ' ', barometricPressureSetting := none, rollAngle := none,
           track := none, trackAngleRate := none, grspeed := none, trueAirspeed := none,
           bds50Timestamp := none, trackSource := ' ', trackTimestamp := none, heading := none,
           indicatedAirspeed := none, machRaw := none, vrate := none, vrateSource := ' ',
           headingSource := ' ', headingTimestamp := none, temperature := none, wind := none,
           humidity := none, turbulence := none, pressure := none }

/-- fields the position decoder may assign -/
def erasePos (p : Plane) : Plane :=
  { p with cprLat0 := 0, cprLat1 := 0, cprLon0 := 0, cprLon1 := 0, cprTime0 := 0, cprTime1 := 0, cprSurf0 := false, cprSurf1 := false,
           lat := 0, lon := 0, distance := none, positionTimestamp := none }

theorem erasePos_updatePosition (env : Env) (p : Plane) (a b : Nat) :
    erasePos (p.updatePosition env a b) = erasePos p := by
  unfold Plane.updatePosition; split <;> rfl

theorem erasePos_storeCpr (env : Env) (p : Plane) (tc : Nat) (c : Option (Nat × Nat × Nat)) :
    erasePos (p.storeCpr env tc c) = erasePos p := by
  unfold Plane.storeCpr; split
  · rw [erasePos_updatePosition]; rfl
  · rfl

theorem storeCpr_altitude (env : Env) (p : Plane) (tc : Nat) (c : Option (Nat × Nat × Nat)) :
    (p.storeCpr env tc c).altitude = p.altitude :=
  of_erase (erasePos_storeCpr env p tc c) fun _ => rfl

theorem eraseExt_storeCpr (env : Env) (p : Plane) (tc : Nat) (c : Option (Nat × Nat × Nat)) :
    eraseExt (p.storeCpr env tc c) = eraseExt p :=
  of_erase (erasePos_storeCpr env p tc c) fun _ => rfl

theorem eraseExt_amendExtTc (env : Env) (p : Plane) (dl : Ext) :
    eraseExt (p.amendExtTc env dl) = eraseExt p := by
  rw [Plane.amendExtTc_eq]
  cases tcClass dl.messageType.1
  case surface | airborne => exact eraseExt_storeCpr ..
  all_goals rfl

theorem eraseExt_amendExt (env : Env) (p : Plane) (dl : Ext) :
    eraseExt (p.amendExt env dl) = eraseExt p := by
  unfold Plane.amendExt; split
  · rw [eraseExt_amendExtTc]; rfl
  · rfl

theorem eraseExt_updateExtTc (env : Env) (p : Plane) (m : Msg) (df tc st : Nat) :
    eraseExt (p.updateExtTc env m df tc st) = eraseExt p := by
  rw [Plane.updateExtTc_eq]
  cases tcClass tc
  case surface | airborne => exact eraseExt_storeCpr ..
  all_goals rfl

theorem eraseExt_updateFromExt (env : Env) (p : Plane) (m : Msg) (df : Nat) :
    eraseExt (p.updateFromExt env m df) = eraseExt p := by
  unfold Plane.updateFromExt; rw [eraseExt_updateExtTc]; rfl

/-- fields a Comm-B register decode (1,7 / 4,0 / 5,0 / 6,0 / 4,4 / 4,5) may assign: everything of
    `eraseModeS` except the two code-selected ones (callsign, threat flag) -/
def eraseRegs (p : Plane) : Plane := { eraseModeS p with ais := p.ais, threatEncounter := p.threatEncounter }

theorem registers_proj {α : Type} (f : Plane → α) (hf : ∀ q, f (eraseRegs q) = f q) (p : Plane) (m : Msg) (r : Bool) :
    f (p.updateFromModeS m r) = f (stageCoded m p).1 := by
  unfold Plane.updateFromModeS
  rw [stage45_eq, stage44_eq, stage60_eq, stage50_eq, stage40_eq, stage17_eq]
  iterate 6 rw [stageG_frame f]
  all_goals exact fun _ _ => of_erase (by delta eraseRegs eraseModeS; rfl) hf

theorem eraseModeS_updateFromModeS (p : Plane) (m : Msg) (r : Bool) :
    eraseModeS (p.updateFromModeS m r) = eraseModeS p :=
  (registers_proj eraseModeS (fun _ => rfl) p m r).trans
    (stageCoded_frame eraseModeS (fun _ _ => rfl) (fun _ _ => rfl) m p)

/-- the extended squitter step and the Comm-B step that `Plane::update` runs after the broadcast fields -/
def Plane.extStep (env : Env) (m : Msg) (df : Nat) (p : Plane) : Plane :=
  if df = 17 ∨ df = 18 then p.updateFromExt env m df else p

def Plane.commBStep (m : Msg) (df : Nat) (r : Bool) (p : Plane) : Plane :=
  if commBGate p df r then p.updateFromModeS m r else p

section
variable {env : Env} {now : Int} {m : Msg} {df : Nat} {r : Bool} {p : Plane}

theorem Plane.update_eq : p.update env now m df r
    = ((Plane.updateFromBcast { p with timestamp := now, lastDf := df } m df).extStep env m df).commBStep m df r := rfl

theorem Plane.extStep_ne (h : df ≠ 17 ∧ df ≠ 18) : p.extStep env m df = p := if_neg fun c => c.elim h.1 h.2

theorem Plane.commBStep_ne (h : df ≠ 20 ∧ df ≠ 21) : p.commBStep m df r = p := by
  refine if_neg ?_
  rw [commBGate, decide_eq_false h.1, decide_eq_false h.2, Bool.or_self, Bool.and_false]
  exact Bool.false_ne_true

variable {α : Type} (f : Plane → α)

theorem Plane.extStep_proj (hE : ∀ q, f (eraseExt q) = f q) : f (p.extStep env m df) = f p := by
  unfold Plane.extStep; split
  · exact of_erase (eraseExt_updateFromExt ..) hE
  · rfl

theorem Plane.commBStep_proj (hM : ∀ q, f (eraseModeS q) = f q) : f (p.commBStep m df r) = f p := by
  unfold Plane.commBStep; split
  · exact of_erase (eraseModeS_updateFromModeS ..) hM
  · rfl
end

theorem update_proj {α : Type} (f : Plane → α) (hE : ∀ q, f (eraseExt q) = f q) (hM : ∀ q, f (eraseModeS q) = f q)
    (env : Env) (now : Int) (p : Plane) (m : Msg) (df : Nat) (r : Bool) :
    f (p.update env now m df r) = f (Plane.updateFromBcast { p with timestamp := now, lastDf := df } m df) :=
  (Plane.commBStep_proj f hM).trans (Plane.extStep_proj f hE)

theorem updateFromDownlink_proj {α : Type} (f : Plane → α) (hE : ∀ q, f (eraseExt q) = f q)
    (env : Env) (now : Int) (p : Plane) (dl : DFRec) :
    f (p.updateFromDownlink env now dl) = f (match dl with
      | .srt v => Plane.amendSrt { p with timestamp := now } v
      | .ext _ => { p with timestamp := now }
      | .mds i => { p with timestamp := now, icao := i.getD p.icao }) := by
  cases dl with
  | ext v => exact of_erase (eraseExt_amendExt ..) hE
  | _ => rfl

/-- everything `Plane::update` may assign, the two stamps aside -/
def eraseUpd (p : Plane) : Plane := eraseModeS (eraseExt { p with squawk := none })

/-- everything the default path (`update_from_downlink`) may assign, the time stamp aside -/
def eraseDl (p : Plane) : Plane := eraseExt { p with squawk := none, icao := 0 }

theorem eraseUpd_update (env : Env) (now : Int) (p : Plane) (m : Msg) (df : Nat) (r : Bool) :
    eraseUpd (p.update env now m df r) = eraseUpd { p with timestamp := now, lastDf := df } := by
  refine (update_proj eraseUpd (fun _ => ?_) (fun _ => ?_) ..).trans rfl
  all_goals delta eraseUpd eraseModeS eraseExt; rfl

theorem eraseDl_updateFromDownlink (env : Env) (now : Int) (p : Plane) (dl : DFRec) :
    eraseDl (p.updateFromDownlink env now dl) = eraseDl { p with timestamp := now } := by
  rw [updateFromDownlink_proj eraseDl fun _ => rfl]
  cases dl with
  | srt v => exact (apply_ite eraseDl ..).trans (ite_self _)    -- both branches of `amendSrt`
  | _ => rfl

theorem applyFrame_preserves {α : Type} (f : Plane → α) (hU : ∀ q, f (eraseUpd q) = f q)
    (hD : ∀ q, f (eraseDl q) = f q) (hS : ∀ q t l, f { q with timestamp := t, lastDf := l } = f q)
    (env : Env) (cfg : DecodeCfg) (now : Int) (p : Plane) (dl : DFRec) (m : Msg) (df : Nat) :
    f (applyFrame env cfg now p dl m df) = f p := by
  unfold applyFrame
  split
  · exact (of_erase (eraseDl_updateFromDownlink ..) hD).trans (hS p now p.lastDf)
  · exact (of_erase (eraseUpd_update ..) hU).trans (hS p now df)

theorem updateFromDownlink_timestamp (env : Env) (now : Int) (p : Plane) (dl : DFRec) :
    (p.updateFromDownlink env now dl).timestamp = now :=
  (of_erase (eraseDl_updateFromDownlink ..) fun _ => rfl).trans rfl

theorem fromDownlink_timestamp (env : Env) (now : Int) (dl : DFRec) (icao : Nat) :
    (Plane.fromDownlink env now dl icao).timestamp = now :=
  updateFromDownlink_timestamp ..

theorem applyFrame_timestamp (env : Env) (cfg : DecodeCfg) (now : Int) (p : Plane) (dl : DFRec) (m : Msg) (df : Nat) :
    (applyFrame env cfg now p dl m df).timestamp = now := by
  unfold applyFrame
  exact ite_ind (fun q : Plane => q.timestamp = now) (updateFromDownlink_timestamp ..) ((of_erase (eraseUpd_update ..) fun _ => rfl).trans rfl)

end Sq
