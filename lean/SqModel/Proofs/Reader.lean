/-
The line loop as a fold: what a segment does is what its accepted lines do (C13), the DF counters
count exactly the accepted lines (C16), and line splitting never loses or merges lines.
-/
import SqModel.Proofs.Table

namespace Sq

def acceptedDf (cfg : DecodeCfg) (line : List Nat) : Option Nat := (acceptedFrame cfg line).map (·.2.1)

def isAccepted (cfg : DecodeCfg) (line : List Nat) : Bool := (acceptedFrame cfg line).isSome

theorem stepLine_not_isAccepted (env : Env) (cfg : DecodeCfg) (now : Int) (s : RState) (line : List Nat)
    (h : ¬ isAccepted cfg line) : stepLine env cfg now s line = s :=
  stepLine_not_accepted env cfg now s line (Option.not_isSome_iff_eq_none.mp h)

theorem runSegment_filter (env : Env) (cfg : DecodeCfg) (now : Int) (t : Table) (lines : List (List Nat)) :
    runSegment env cfg now t lines = runSegment env cfg now t (lines.filter (isAccepted cfg)) := by
  rw [runSegment, runSegment, List.foldl_filter]
  congr
  funext s l
  split
  · rfl
  · exact stepLine_not_isAccepted env cfg now s l ‹_›

theorem filter_isAccepted_eq_nil {cfg : DecodeCfg} {junk : List (List Nat)} (hj : ∀ l ∈ junk, isAccepted cfg l = false) :
    junk.filter (isAccepted cfg) = [] :=
  List.filter_eq_nil_iff.mpr fun l hl => Bool.eq_false_iff.mp (hj l hl)

/-- inserting unusable lines anywhere changes nothing -/
theorem junk_insertion (env : Env) (cfg : DecodeCfg) (now : Int) (t : Table) (pre junk post : List (List Nat))
    (hj : ∀ l ∈ junk, isAccepted cfg l = false) :
    runSegment env cfg now t (pre ++ junk ++ post) = runSegment env cfg now t (pre ++ post) := by
  rw [runSegment_filter, runSegment_filter env cfg now t (pre ++ post), List.filter_append, List.filter_append,
    filter_isAccepted_eq_nil hj, List.append_nil, List.filter_append]

def countsOf (dfs : List Nat) : List (Nat × Int) := dfs.foldl bumpCount []

def cntLookup (c : List (Nat × Int)) (k : Nat) : Int := ((c.find? fun x => x.1 == k).map (·.2)).getD 0

/-- keys strictly ascending (the `BTreeMap` order) -/
def KeysAsc : List (Nat × Int) → Prop
  | [] => True
  | [_] => True
  | a :: b :: rest => a.1 < b.1 ∧ KeysAsc (b :: rest)

/-- the same with every pair compared, which is what the inductions below carry -/
abbrev Asc (c : List (Nat × Int)) : Prop := c.Pairwise fun a b => a.1 < b.1

theorem Asc.keysAsc : ∀ {c : List (Nat × Int)}, Asc c → KeysAsc c
  | [], _ => trivial
  | [_], _ => trivial
  | _ :: _ :: _, h => ⟨List.rel_of_pairwise_cons h List.mem_cons_self, Asc.keysAsc h.of_cons⟩

theorem Asc.lt_all {k0 : Nat} {v : Int} {r : List (Nat × Int)} (h : Asc ((k0, v) :: r)) {df : Nat} (hlt : df < k0) :
    ∀ x ∈ (k0, v) :: r, df < x.1 :=
  List.forall_mem_cons.mpr ⟨hlt, fun _ hx => Nat.lt_trans hlt (List.rel_of_pairwise_cons h hx)⟩

theorem mem_bumpCount (c : List (Nat × Int)) (df : Nat) : ∀ x ∈ bumpCount c df, x.1 = df ∨ x ∈ c := by
  fun_induction bumpCount c df with
  | case1 df => exact List.forall_mem_cons.mpr ⟨.inl rfl, nofun⟩
  | case2 k v rest df _ => exact List.forall_mem_cons.mpr ⟨.inl rfl, fun _ => .inr⟩
  | case3 v rest k _ => exact List.forall_mem_cons.mpr ⟨.inl rfl, fun _ h => .inr (List.mem_cons_of_mem _ h)⟩
  | case4 k v rest df _ _ ih =>
    exact List.forall_mem_cons.mpr ⟨.inr List.mem_cons_self, fun x h => (ih x h).imp_right (List.mem_cons_of_mem _)⟩

theorem bumpCount_asc (c : List (Nat × Int)) (df : Nat) (h : Asc c) : Asc (bumpCount c df) := by
  fun_induction bumpCount c df with
  | case1 df => exact List.pairwise_singleton _ _
  | case2 k v rest df hlt => exact List.pairwise_cons.mpr ⟨h.lt_all hlt, h⟩
  | case3 v rest k _ => exact List.pairwise_cons.mpr ⟨fun _ => List.rel_of_pairwise_cons h, h.of_cons⟩
  | case4 k v rest df hlt hne ih =>
    refine List.pairwise_cons.mpr ⟨fun x hx => ?_, ih h.of_cons⟩
    rcases mem_bumpCount _ _ x hx with e | hx
    · exact e ▸ Nat.lt_of_le_of_ne (Nat.not_lt.mp hlt) (Ne.symm hne)
    · exact List.rel_of_pairwise_cons h hx

theorem cntLookup_cons (k0 : Nat) (v : Int) (r : List (Nat × Int)) (k : Nat) :
    cntLookup ((k0, v) :: r) k = if k0 = k then v else cntLookup r k := by
  rw [cntLookup, find?_fst_cons, apply_ite (Option.map _), apply_ite (Option.getD · 0)]; rfl

theorem cntLookup_of_lt {c : List (Nat × Int)} {k : Nat} (h : ∀ x ∈ c, k < x.1) : cntLookup c k = 0 := by
  rw [cntLookup, List.find?_eq_none.mpr fun x hx => by simpa using Nat.ne_of_gt (h x hx)]
  rfl

theorem cntLookup_bump_other (c : List (Nat × Int)) {df k : Nat} (hk : df ≠ k) :
    cntLookup (bumpCount c df) k = cntLookup c k := by
  fun_induction bumpCount c df with
  | case1 df => rw [cntLookup_cons, if_neg hk]
  | case2 k0 v rest df _ => rw [cntLookup_cons, if_neg hk]
  | case3 v rest k0 _ => rw [cntLookup_cons, cntLookup_cons, if_neg hk, if_neg hk]
  | case4 k0 v rest df _ _ ih => rw [cntLookup_cons, cntLookup_cons, ih hk]

/-- the DF is found at, or put in, the one place the order allows -/
theorem cntLookup_bump_self (c : List (Nat × Int)) (df : Nat) (h : Asc c) :
    cntLookup (bumpCount c df) df = cntLookup c df + 1 := by
  fun_induction bumpCount c df with
  | case1 df => rw [cntLookup_cons, if_pos rfl]; rfl
  | case2 k0 v rest df hlt => rw [cntLookup_cons, if_pos rfl, cntLookup_of_lt (h.lt_all hlt)]
  | case3 v rest k0 _ => rw [cntLookup_cons, cntLookup_cons, if_pos rfl, if_pos rfl]
  | case4 k0 v rest df _ hne ih =>
    rw [cntLookup_cons, cntLookup_cons, if_neg (Ne.symm hne), if_neg (Ne.symm hne), ih h.of_cons]

theorem dfCount_foldl (env : Env) (cfg : DecodeCfg) (now : Int) (lines : List (List Nat)) (s : RState) :
    (lines.foldl (stepLine env cfg now) s).dfCount
      = if cfg.countDf then (lines.filterMap (acceptedDf cfg)).foldl bumpCount s.dfCount else s.dfCount := by
  induction lines generalizing s with
  | nil => exact (ite_self _).symm
  | cons l ls ih =>
    rw [List.foldl_cons, ih, List.filterMap_cons, acceptedDf]
    cases hf : acceptedFrame cfg l with
    | none => rw [stepLine_not_accepted env cfg now s l hf]; rfl
    | some x =>
      obtain ⟨dl, _, he⟩ := stepLine_accepted_eq env cfg now s l x.1 x.2.1 x.2.2 hf
      rw [he, cleanup_eq]
      cases cfg.countDf <;> rfl

theorem dfCount_runSegment (env : Env) (cfg : DecodeCfg) (now : Int) (t : Table) (lines : List (List Nat)) :
    (runSegment env cfg now t lines).dfCount
      = if cfg.countDf then countsOf (lines.filterMap (acceptedDf cfg)) else [] :=
  dfCount_foldl ..

theorem countsOf_asc (dfs : List Nat) : Asc (countsOf dfs) :=
  List.foldlRecOn dfs bumpCount .nil fun c h d _ => bumpCount_asc c d h

theorem cntLookup_foldl (dfs : List Nat) (k : Nat) (c : List (Nat × Int)) (h : Asc c) :
    cntLookup (dfs.foldl bumpCount c) k = cntLookup c k + (dfs.count k : Int) := by
  induction dfs generalizing c with
  | nil => exact (Int.add_zero _).symm
  | cons d ds ih =>
    rw [List.foldl_cons, ih _ (bumpCount_asc c d h), List.count_cons]
    by_cases e : d = k
    · subst e; rw [cntLookup_bump_self c d h, beq_self_eq_true, if_pos rfl]; omega
    · rw [cntLookup_bump_other c e, if_neg (mt beq_iff_eq.mp e)]; rfl

theorem cntLookup_countsOf (dfs : List Nat) (k : Nat) : cntLookup (countsOf dfs) k = (dfs.count k : Int) :=
  (cntLookup_foldl dfs k [] .nil).trans (Int.zero_add _)

theorem splitLines_go_append (cur : List Nat) (acc : List (List Nat)) (a rest : List Nat) (ha : 10 ∉ a) :
    splitLines.go cur acc (a ++ rest) = splitLines.go (a.reverse ++ cur) acc rest := by
  induction a generalizing cur with
  | nil => rfl
  | cons x xs ih =>
    rw [List.cons_append, splitLines.go, if_neg (fun e : x = 10 => ha (e ▸ List.mem_cons_self)),
      ih _ (fun h => ha (List.mem_cons_of_mem _ h)), List.reverse_cons, List.append_assoc]
    rfl

theorem splitLines_go_acc (cur : List Nat) (acc : List (List Nat)) (bs : List Nat) :
    splitLines.go cur acc bs = acc.reverse ++ splitLines.go cur [] bs := by
  induction bs generalizing cur acc with
  | nil =>
    unfold splitLines.go
    split
    · exact (List.append_nil _).symm
    · exact List.reverse_cons
  | cons b bs ih =>
    unfold splitLines.go
    split
    · rw [ih, ih [] [_], List.reverse_cons, List.append_assoc]; rfl
    · exact ih ..

theorem splitLines_cons_line (a b : List Nat) (ha : 10 ∉ a) :
    splitLines (a ++ 10 :: b) = a :: splitLines b := by
  rw [splitLines, splitLines_go_append [] [] a _ ha, splitLines.go, if_pos rfl, splitLines_go_acc, List.append_nil,
    List.reverse_reverse]
  rfl

theorem splitLines_last (a : List Nat) (ha : 10 ∉ a) (hne : a ≠ []) : splitLines a = [a] := by
  have := splitLines_go_append [] [] a [] ha
  rw [List.append_nil] at this
  rw [splitLines, this, splitLines.go, List.append_nil, if_neg (by rwa [List.isEmpty_reverse, List.isEmpty_iff]),
    List.reverse_reverse]
  rfl

end Sq
