/-
The dispatching `match`es of the code, regenerated from the source on every run
(`Generated/Dispatch.lean`), are the ones the hand-written model transliterates.  If a type-code range,
a downlink-format arm, the pairing guard or a guard of `Plane::update` changes in the source, one of these
`rfl`s fails: the obligation is broken and the check searches for an input on which a property fails.
-/
import SqModel.Generated.Dispatch

namespace Sq.Dispatch

/-- default path (`UpdateFromDownlink<Ext>`): the arms `Plane.amendExtTc` models -/
theorem arms_default : Gen.armsExtDefault =
    [("1..=4", "amend_from_ext_1_4"), ("5..=8", "amend_from_ext_5_8"), ("9..=18", "amend_from_ext_9_18"),
     ("19", "amend_from_ext_19"), ("20..=22", "amend_from_ext_20_22"), ("31", "amend_from_ext_31"), ("_", "")] := rfl

/-- -U path (`update_from_ext`): the arms `Plane.updateExtTc` models -/
theorem arms_update : Gen.armsExtUpdate =
    [("1..=4", "update_from_ext_1_4"), ("5..=8", "update_from_ext_5_8"), ("9..=18", "update_from_ext_9_18"),
     ("19", "update_from_ext_19"), ("20..=22", "update_from_ext_20_22"), ("31", "update_from_ext_31"), ("_", "")] := rfl

/-- the two paths dispatch on the same type-code classes -/
theorem same_classes : Gen.armsExtDefault.map Prod.fst = Gen.armsExtUpdate.map Prod.fst := rfl

/-- `DF::from_message`: what `DFRec.fromMessage` models -/
theorem arms_df : Gen.armsDf = [("0..=16", "DF::SRT"), ("17", "DF::EXT"), ("20 | 21", "DF::MDS"), ("_", "DF::SRT")] := rfl

/-- `Ext::update`: what `Ext.fromMessage` models -/
theorem arms_ext_decode : Gen.armsExtDecode =
    [("1..=4", "update_mt_1_4"), ("5..=18", "update_mt_5_18"), ("19", "update_mt_19"), ("20..=22", "update_mt_20_22"),
     ("31", "update_mt_31"), ("_", "")] := rfl

/-- `update_position`: what `Plane.posDecode` models -/
theorem position_guard_shape :
    Gen.armsPosition = [("5..=8", "decoder::cpr_location"), ("9..=18", "decoder::cpr_location"), ("_", "")]
    ∧ Gen.positionCoeffs = [4, 1] ∧ Gen.pairWindowSeconds = 10 ∧ Gen.positionRange = [90, 90, 180, 180]
    ∧ Gen.pairingGuard = "self.cpr_lat[0] != 0 && self.cpr_lat[1] != 0 && self.cpr_lon[0] != 0 && self.cpr_lon[1] != 0 && self.cpr_surface[0] == self.cpr_surface[1] && self.cpr_time[0].signed_duration_since(self.cpr_time[1]).num_seconds().abs() < 10" :=
  ⟨rfl, rfl, rfl, rfl, rfl⟩

/-- `Plane::update`: what `Plane.update` / `commBGate` model -/
theorem update_guards :
    Gen.updateExtGuard = "df == 17 || df == 18"
    ∧ Gen.updateCommBGuard = "(relaxed || (self.capability.0 > 3)) && (df == 20 || df == 21)" := ⟨rfl, rfl⟩

end Sq.Dispatch
