/-
Two runs of the reader compared through a view of the rows.  If the frames of the lines in question
keep rows that look alike looking alike, then whole runs keep tables that look alike looking
alike: same addresses in the same order, same sweeps.  C19 instantiates this three times: with the row itself
(two settings of -c), with the fields listed for -U (two option sets) and with everything but the distance
(two observers).
-/
import SqModel.Proofs.Table

namespace Sq

def tableView {V : Type} (v : Plane → V) (t : Table) : List (Nat × V) := t.map fun kp => (kp.1, v kp.2)

theorem tableView_id (t : Table) : tableView id t = t := List.map_id t

section
variable {V : Type} (v : Plane → V)

theorem tableView_any (t : Table) (k : Nat) :
    t.any (fun kp => kp.1 == k) = (tableView v t).any (fun kv => kv.1 == k) := by
  simp [tableView, List.any_map, Function.comp_def]

theorem tableView_filter (ts : V → Int) (hts : ∀ p, ts (v p) = p.timestamp) (f : Int → Bool) (t : Table) :
    tableView v (t.filter fun kp => f kp.2.timestamp) = (tableView v t).filter fun kv => f (ts kv.2) := by
  simp [tableView, List.filter_map, Function.comp_def, hts]

/-- a frame respects the view, between two option sets and environments: on the row it hits and on the row it creates -/
structure Respects (env₁ env₂ : Env) (cfg₁ cfg₂ : DecodeCfg) (now : Int) (dl : DFRec) (m : Msg) (df icao : Nat) : Prop where
  hit : ∀ p₁ p₂, v p₁ = v p₂ → v (applyFrame env₁ cfg₁ now p₁ dl m df) = v (applyFrame env₂ cfg₂ now p₂ dl m df)
  new : v (Plane.fromDownlink env₁ now dl icao) = v (Plane.fromDownlink env₂ now dl icao)

/-- two reader states alike under the view -/
structure Alike (s₁ s₂ : RState) : Prop where
  table : tableView v s₁.table = tableView v s₂.table
  count : s₁.cleanupCount = s₂.cleanupCount

/-- the standing assumptions of a comparison: the view shows the last-contact time (the sweep looks at it), the options
    sweep alike and accept the same lines, the environments build the same records -/
structure Sides (env₁ env₂ : Env) (cfg₁ cfg₂ : DecodeCfg) : Prop where
  stamp : ∃ ts : V → Int, ∀ p, ts (v p) = p.timestamp
  sweep : cfg₁.deleteAfter = cfg₂.deleteAfter
  filter : cfg₁.filter = cfg₂.filter
  record : ∀ m, DFRec.fromMessage env₁ m = DFRec.fromMessage env₂ m

variable {v} {env₁ env₂ : Env} {cfg₁ cfg₂ : DecodeCfg}

theorem Respects.updateAircraft {now : Int} {dl : DFRec} {m : Msg} {df icao : Nat}
    (hr : Respects v env₁ env₂ cfg₁ cfg₂ now dl m df icao) {t₁ t₂ : Table} (h : tableView v t₁ = tableView v t₂) :
    tableView v (updateAircraft env₁ cfg₁ now t₁ dl m df icao) = tableView v (updateAircraft env₂ cfg₂ now t₂ dl m df icao) := by
  unfold Sq.updateAircraft
  rw [tableView_any v t₁, tableView_any v t₂, h]
  refine ite_ind₂ (fun a b => tableView v a = tableView v b) ?_ ?_
  · unfold tableView at h ⊢
    rw [List.map_map, List.map_map]
    refine map_eq_map_of_imp (fun x y e => ?_) h
    -- the rows of the address are updated on both sides, the others on neither
    obtain ⟨ek, ev⟩ := Prod.mk.inj e
    rw [Function.comp, Function.comp, ek]
    exact ite_ind₂ (fun a b : Nat × Plane => (a.1, v a.2) = (b.1, v b.2)) (congrArg _ (hr.hit _ _ ev)) e
  · unfold tableView at h ⊢
    rw [List.map_append, List.map_append, h]
    exact congrArg (fun x => _ ++ [(icao, x)]) hr.new

/-- the sweep falls on both sides or on neither, and looks at what the view shows -/
theorem Alike.cleanup (S : Sides v env₁ env₂ cfg₁ cfg₂) (now : Int) {s₁ s₂ : RState} (h : Alike v s₁ s₂) :
    Alike v (cleanup cfg₁ now s₁) (cleanup cfg₂ now s₂) := by
  obtain ⟨ts, hts⟩ := S.stamp
  refine ⟨?_, by rw [cleanup_eq, cleanup_eq, h.count]⟩
  rw [cleanup_table, cleanup_table, h.count, S.sweep]
  refine ite_ind₂ (fun a b => tableView v a = tableView v b) ?_ h.table
  have e := tableView_filter v ts hts fun t => decide (numSeconds now t < cfg₂.deleteAfter)
  rw [e, e, h.table]

/-- one line: if its frame (should it be accepted) respects the view, states alike stay alike -/
theorem stepLine_view (S : Sides v env₁ env₂ cfg₁ cfg₂) (now : Int) (line : List Nat)
    (hstep : ∀ m df icao dl, acceptedFrame cfg₁ line = some (m, df, icao) → DFRec.fromMessage env₁ m = some dl →
      Respects v env₁ env₂ cfg₁ cfg₂ now dl m df icao)
    (s₁ s₂ : RState) (h : Alike v s₁ s₂) : Alike v (stepLine env₁ cfg₁ now s₁ line) (stepLine env₂ cfg₂ now s₂ line) := by
  have hacc : acceptedFrame cfg₂ line = acceptedFrame cfg₁ line := by unfold acceptedFrame passesFilter; rw [S.filter]
  cases ha : acceptedFrame cfg₁ line with
  | none =>
    rwa [stepLine_not_accepted env₁ cfg₁ now s₁ line ha, stepLine_not_accepted env₂ cfg₂ now s₂ line (hacc.trans ha)]
  | some r =>
    obtain ⟨m, df, icao⟩ := r
    obtain ⟨dl, hdl, e₁⟩ := stepLine_accepted_eq env₁ cfg₁ now s₁ line m df icao ha
    obtain ⟨dl', hdl', e₂⟩ := stepLine_accepted_eq env₂ cfg₂ now s₂ line m df icao (hacc.trans ha)
    obtain rfl := Option.some.inj (hdl'.symm.trans ((S.record m).symm.trans hdl))
    rw [e₁, e₂]
    exact Alike.cleanup S now ⟨(hstep m df icao dl' ha hdl).updateAircraft h.table, h.count⟩

/-- ... and so over any number of lines -/
theorem run_view (S : Sides v env₁ env₂ cfg₁ cfg₂) (now : Int) (lines : List (List Nat))
    (hstep : ∀ line ∈ lines, ∀ m df icao dl, acceptedFrame cfg₁ line = some (m, df, icao) →
      DFRec.fromMessage env₁ m = some dl → Respects v env₁ env₂ cfg₁ cfg₂ now dl m df icao)
    (s₁ s₂ : RState) (h : Alike v s₁ s₂) :
    Alike v (lines.foldl (stepLine env₁ cfg₁ now) s₁) (lines.foldl (stepLine env₂ cfg₂ now) s₂) := by
  induction lines generalizing s₁ s₂ with
  | nil => exact h
  | cons l ls ih =>
    exact ih (fun x hx => hstep x (List.mem_cons_of_mem _ hx)) _ _ (stepLine_view S now l (hstep l List.mem_cons_self) s₁ s₂ h)
end

end Sq
