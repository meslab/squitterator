/-
Bridge, table layer: `Planes::update_aircraft`, `Planes::cleanup`, the `AppCounters` methods and the body of the
`for line in ..` loop of `read_lines` - regenerated from /repo's source into `Generated/TransTable.lean` - simulate the
hand-written `updateAircraft`, `cleanup`, `bumpCount` and `stepLine` (`Model/Table.lean`) that the history theorems
(C03 row isolation, C11, C12, C13, C16, C19) are stated about.

Not in the step: the `-D` downlink log (an I/O side effect whose error would end the connection) and the screen refresh,
which touch neither the table nor the DF counters.  The translator drops the statements of the loop body that mention
`downlink_error_log_file`, `display_flags` or `headers` (`prune` in `extract/rs2lean.py`).

The translated loop body calls `get_downlink_format` and `get_icao` by the hand model's names (outside the bit and frame layer
the translator does so for the functions in `BUILTIN_FNS` of `extract/rs2lean.py`): their bridges, `get_icao_eq` and the others of `BridgeBits.lean`, are
separate theorems and are not composed into `read_lines_step_sim`.  `Safe.Accepted` (what the gate hands on) is defined in `Proofs/Accept.lean`.
-/
import SqModel.Generated.TransTable
import SqModel.Proofs.BridgePlane
import SqModel.Proofs.BridgeBits
import SqModel.Proofs.Accept

namespace Sq.Bridge
open Sq

def tableToT (t : Table) : T.Planes := ⟨t.map fun kp => (kp.1, planeToT kp.2)⟩

/-- the model's counters as the code's `AppCounters` (`ts`: the refresh time stamp, which no decoding step reads) -/
def countersToT (s : RState) (ts : Int) : T.AppCounters := ⟨s.dfCount, ts, s.cleanupCount⟩

def cfgOfArgs (a : T.Args) : DecodeCfg :=
  { relaxed := a.relaxed, useUpdate := a.use_update_method, countDf := a.count_df, filter := a.filter, deleteAfter := a.delete_after }

theorem btUpsert_bump (l : List (Nat × Int)) (df : Nat) :
    btUpsert l df (fun c_ => c_ + (1 : Int)) (0 : Int) = bumpCount l df := by
  induction l with
  | nil => rfl
  | cons kc rest ih =>
    obtain ⟨k, c⟩ := kc
    simp only [btUpsert, bumpCount, ih]

theorem update_count_sim (s : RState) (ts : Int) (df : Nat) :
    T.AppCounters.update_count (countersToT s ts) df = countersToT { s with dfCount := bumpCount s.dfCount df } ts := by
  simp only [T.AppCounters.update_count, countersToT, btUpsert_bump]

theorem reset_cleanup_count_sim (s : RState) (ts : Int) :
    T.AppCounters.reset_cleanup_count (countersToT s ts) = countersToT { s with cleanupCount := 0 } ts := rfl

theorem increment_cleanup_count_sim (s : RState) (ts : Int) :
    T.AppCounters.increment_cleanup_count (countersToT s ts) = countersToT { s with cleanupCount := s.cleanupCount + 1 } ts := rfl

/-- the refresh bookkeeping never touches what the step reads -/
theorem reset_timestamp_sim (s : RState) (ts now : Int) :
    T.AppCounters.reset_timestamp (countersToT s ts) now = countersToT s now := rfl

theorem is_time_to_refresh_eq (s : RState) (ts now upd : Int) :
    T.AppCounters.is_time_to_refresh (countersToT s ts) now upd = decide (numSeconds now ts > upd) := rfl

theorem hmUpsert_map {α β : Type} (g : α → β) (t : List (Nat × α)) (k : Nat) (f : α → α) (f' : β → β) (v : α)
    (h : ∀ x, f' (g x) = g (f x)) :
    hmUpsert (t.map fun kp => (kp.1, g kp.2)) k f' (g v) = (hmUpsert t k f v).map fun kp => (kp.1, g kp.2) := by
  unfold hmUpsert
  rw [List.any_map, apply_ite (List.map _), List.map_map, List.map_map, List.map_append]
  refine if_congr Iff.rfl (List.map_congr_left fun kp _ => ?_) rfl
  simp only [Function.comp, h, apply_ite (fun kp : Nat × α => (kp.1, g kp.2))]

/-- one existing row under `update_aircraft`'s closure -/
theorem apply_frame_sim (now : Int) (te : TEnv) (p : Plane) (d : T.DF) (m : Msg) (df : Nat) (a : T.Args)
    (hL : (df = 17 ∨ df = 18 ∨ df = 20 ∨ df = 21) → Long m) :
    (if df < 20 ∧ ¬ (a.use_update_method = true) then T.Plane.update_from_downlink_DF now te (planeToT p) d
     else T.Plane.update now te (planeToT p) m df a.relaxed)
      = planeToT (applyFrame (envOfT te) (cfgOfArgs a) now p (dfOfT d) m df) := by
  unfold applyFrame cfgOfArgs
  rw [apply_ite planeToT, ← update_sim te now p m df a.relaxed hL, ← update_from_downlink_DF_sim]
  simp only [Bool.not_eq_true, Bool.not_eq_true']

/-- `Planes::update_aircraft`: both update paths and the creation of a row -/
theorem update_aircraft_sim (now : Int) (te : TEnv) (t : Table) (d : T.DF) (m : Msg) (df icao : Nat) (a : T.Args)
    (hL : (df = 17 ∨ df = 18 ∨ df = 20 ∨ df = 21) → Long m) :
    T.Planes.update_aircraft now te (tableToT t) d m df icao a
      = tableToT (updateAircraft (envOfT te) (cfgOfArgs a) now t (dfOfT d) m df icao) := by
  unfold T.Planes.update_aircraft tableToT
  rw [from_downlink_sim]
  -- `updateAircraft` is `hmUpsert` with `applyFrame` as the update, by definition
  exact congrArg T.Planes.mk (hmUpsert_map planeToT t icao (applyFrame (envOfT te) (cfgOfArgs a) now · (dfOfT d) m df) _ _
    fun p => apply_frame_sim now te p d m df a hL)

/-- `Planes::cleanup`: the sweep every eleventh call, the tick otherwise -/
theorem cleanup_sim (s : RState) (ts now : Int) (cfg : DecodeCfg) :
    T.Planes.cleanup (tableToT s.table) (countersToT s ts) now cfg.deleteAfter
      = (tableToT (cleanup cfg now s).table, countersToT (cleanup cfg now s) ts) := by
  unfold T.Planes.cleanup cleanup tableToT countersToT
  dsimp only
  rw [List.filter_map]
  split <;> rfl

/-- everything after the `-f` filter, for the record `d` the frame yields: count, update, sweep -/
theorem step_core_sim (now : Int) (te : TEnv) (a : T.Args) (s : RState) (ts : Int) (m : Msg) (df icao : Nat) (d : T.DF)
    (hd : DFRec.fromMessage (envOfT te) m = some (dfOfT d)) (hL : (df = 17 ∨ df = 18 ∨ df = 20 ∨ df = 21) → Long m) :
    T.Planes.cleanup (T.Planes.update_aircraft now te (tableToT s.table) d m df icao a)
        (if a.count_df = true then T.AppCounters.update_count (countersToT s ts) df else countersToT s ts) now a.delete_after
      = (let s1 := if (cfgOfArgs a).countDf then { s with dfCount := bumpCount s.dfCount df } else s
         let s2 := match DFRec.fromMessage (envOfT te) m with
           | some dl => cleanup (cfgOfArgs a) now { s1 with table := updateAircraft (envOfT te) (cfgOfArgs a) now s1.table dl m df icao }
           | none => s1
         (tableToT s2.table, countersToT s2 ts)) := by
  rw [hd, show (cfgOfArgs a).countDf = a.count_df from rfl, update_aircraft_sim now te s.table d m df icao a hL, update_count_sim]
  cases a.count_df
  · exact cleanup_sim { s with table := _ } ts now (cfgOfArgs a)
  · exact cleanup_sim { s with table := _, dfCount := bumpCount s.dfCount df } ts now (cfgOfArgs a)

/-- **the loop body of `read_lines`**, regenerated from the source, is the model's `stepLine`: for every table, every
    counter state, every option set and every line whose characters the gate reads as the model reads its bytes
    (`get_message_bytes`: every ASCII line), one iteration of the code's loop takes the code's state
    `(tableToT s.table, countersToT s ts)` to the image of `stepLine .. s line`. -/
theorem read_lines_step_sim (now : Int) (te : TEnv) (cs : List Char) (line : List Nat) (a : T.Args) (s : RState) (ts : Int)
    (hline : T.get_message cs = getMessage line) :
    T.read_lines_step now te cs a (tableToT s.table) (countersToT s ts)
      = (tableToT (stepLine (envOfT te) (cfgOfArgs a) now s line).table,
         countersToT (stepLine (envOfT te) (cfgOfArgs a) now s line) ts) := by
  unfold T.read_lines_step stepLine acceptedFrame passesFilter
  rw [hline, show (cfgOfArgs a).filter = a.filter from rfl]
  cases hm : getMessage line with
  | none => rfl
  | some m =>
    dsimp only
    cases hdf : getDownlinkFormat m with
    | none => rfl
    | some df =>
      dsimp only
      cases hi : getIcao m df with
      | none => rfl
      | some icao =>
        dsimp only
        have A := Safe.Accepted.of_digits (hexDigits_allNib line) hm
        -- with a downlink format there is a record, in the code as in the model
        obtain ⟨dl, hdl⟩ := fromMessage_some (envOfT te) m df hdf
        obtain ⟨d, hd, rfl⟩ := Option.map_eq_some_iff.1 ((df_from_message_sim te m fun h => A.long h (by decide)).trans hdl)
        have core := step_core_sim now te a s ts m df icao d hdl (A.longU hdf)
        rw [hd]
        cases a.filter with
        | none => exact core
        | some only =>
          -- rewriting the model's test renews its `Decidable` instance, which the reductions above left mentioning the
          -- unreduced `match`: `cases` could not abstract the flag otherwise
          simp only [Bool.not_eq_true']
          cases only.all (fun x => x != df) with
          | true => rfl
          | false => exact core

/-- a whole segment (one `read_lines` call over ASCII lines, processed at one instant): folding the code's loop body over the
    lines gives the image of the model's `runSegment` -/
theorem read_lines_fold_sim (now : Int) (te : TEnv) (a : T.Args) (ts : Int) (lines : List (List Nat))
    (hascii : ∀ l ∈ lines, ∀ b ∈ l, b < 128) (s : RState) :
    lines.foldl (fun st l => T.read_lines_step now te (l.map Char.ofNat) a st.1 st.2) (tableToT s.table, countersToT s ts)
      = (tableToT (lines.foldl (stepLine (envOfT te) (cfgOfArgs a) now) s).table,
         countersToT (lines.foldl (stepLine (envOfT te) (cfgOfArgs a) now) s) ts) := by
  induction lines generalizing s with
  | nil => rfl
  | cons l ls ih =>
    rw [List.foldl_cons, List.foldl_cons,
      read_lines_step_sim now te _ l a s ts (get_message_bytes l (hascii l List.mem_cons_self))]
    exact ih (fun l' h' => hascii l' (List.mem_cons_of_mem _ h')) _

end Sq.Bridge
