/-
The altitude decoder against the Mode S altitude-code specification: with M = 0 and Q = 1 the
working code without its two low bits is the 12-bit altitude code, and the decoder's arithmetic on
it is the specification's.
-/
import SqModel.Proofs.Fields

namespace Sq
open Spec

/-- the whole of `altitude(message, df)` for df ≠ 17 as a function of the working code -/
def altOfMaCode (code : Nat) : Option Nat :=
  (if code &&& 0b10 = 0 then
      if code &&& 1 = 0 then
        let hl := graytobinOfCode code
        if 1200 ≤ hl.1 * 500 + hl.2 * 100 then some (hl.1 * 500 + hl.2 * 100 - 1200) else none
      else altQ1 code
    else altMetric code).bind fun a => if a < 100000 then some a else none

theorem altitude_eq_altOfMaCode (m : Msg) (df : Nat) (h : df ≠ 17) :
    altitude m df = altOfMaCode (maCode m) := by
  unfold altitude altOfMaCode altitudeValue altGillham graytobin
  simp only [h, if_false]

/-- a working code with M = 0 and Q = 1, from either format: `altitude_value` takes its 25-ft arm,
    which drops the two low bits and the Q bit of what is left -/
theorem altitudeValue_q1 (m : Msg) (f : Nat) (hf : f < 4096) (hq : (acBits12 f).q = 1) :
    ((altitudeValue m (some (4 * f + 1))).bind fun a => if a < 100000 then some a else none) = altSpec12 f := by
  -- `omega` takes `code` as an atom: from `code = 4 * f + 1` and the masked bit `e` it has the two tests of `altitude_value`
  -- and `f = code / 4`, after which the shifts of `altQ1` are divisions of `f`
  generalize hc : 4 * f + 1 = code
  have e : (code &&& 2) % 2 ^ 2 = 0 := by rw [Nat.and_mod_two_pow, ← hc, Nat.mul_add_mod]; rfl
  have := @Nat.and_le_right code 2
  obtain ⟨h2, h1, hf4, hn'⟩ : code &&& 2 = 0 ∧ code % 2 ≠ 0 ∧ f = code / 4 ∧ f / 32 * 16 + f % 16 < 2048 := by omega
  have hn : (code >>> 7) <<< 4 ||| code >>> 2 &&& 0b1111 = f / 32 * 16 + f % 16 := by
    rw [← Nat.shiftLeft_add_eq_or_of_lt (Nat.lt_succ_of_le Nat.and_le_right), Nat.shiftLeft_eq,
      Nat.and_two_pow_sub_one_eq_mod _ 4, Nat.shiftRight_eq_div_pow, Nat.shiftRight_eq_div_pow, hf4,
      Nat.div_div_eq_div_mul]
  simp only [altitudeValue, h2, if_true, Nat.and_one_is_mod, h1, if_false, altQ1, hn, altSpec12, hq]
  generalize f / 32 * 16 + f % 16 = n at *
  rw [Nat.mul_comm n 25]
  split
  · rw [Option.bind_some, if_pos (by omega)]
  · rfl

theorem maOfField_q1 (c : Nat) (hM : mBit c = 0) (hQ : (acBits12 (ac12of13 c)).q = 1) :
    maOfField c = 4 * ac12of13 c + 1 := by
  rw [maOfField, hM, ← fb_ac12of13_lo c 4 (by decide), show fb (ac12of13 c) 4 = 1 from hQ]

/-- `me_code` as a function of the 12-bit field: the field, two zero bits, and its Q bit once more (as `maOfField` for `ma_code`) -/
def meOfField (f : Nat) : Nat := 4 * f + fb f 4

theorem meCode_eq (m : Msg) (h : AllNib m) (hl : 13 ≤ m.length) :
    meCode m = some (meOfField (field m 41 52)) := by
  have hf : field m 41 52 < 2 ^ 12 := field_lt m 41 52
  have := fb_lt (field m 41 52) 4
  rw [meCode, flagAndRangeValue_eq m h 48 41 52 (by decide) (by omega) (by decide) (by decide) (by omega),
    field_sub m 41 52 48 48 (by decide) (by decide) (by decide) (by omega), Option.map_some,
    ← Nat.shiftLeft_add_eq_or_of_lt (by exact Nat.lt_trans this (by decide)), Nat.shiftLeft_eq,
    Nat.mod_eq_of_lt (by show _ + fb _ 4 < _; omega), meOfField, Nat.mul_comm]
  rfl

end Sq
