/-
Trap-freedom of `src/decoder/adsb/position.rs` (`Generated/TransSafe.lean`): `pmod`, `nl`, `fixed_lat`, `signed_lon`,
`cpr_location` evaluate without a trapping operation whenever the frame format is a one-bit value and the
coefficient is one of the two the call sites pass (1 airborne, 4 surface).
-/
import SqModel.Generated.TransSafe
import SqModel.Proofs.BridgeCpr
import SqModel.Proofs.RatPrim

namespace Sq.Safe
open Sq Sq.Bridge

theorem fixed_lat_safe (lat : Rat) : T.fixed_lat.safe lat := trivial
theorem signed_lon_safe (lon : Rat) : T.signed_lon.safe lon := trivial
theorem nl_safe (lat : Rat) : T.nl.safe lat := trivial

theorem nl_range (lat : Rat) : 1 ≤ T.nl lat ∧ T.nl lat ≤ 59 := by
  rw [nl_eq]; exact CprMath.nlOf_range lat

/-- `pmod(x, y)` for a positive modulus that leaves room for one addition -/
theorem pmod_safe (x y : Int) (hy : 1 ≤ y ∧ y ≤ 1073741824) : T.pmod.safe x y := by
  have hpos : 0 < y := hy.1
  refine ⟨Int.ne_of_gt hpos, fun h => absurd (h.2 ▸ hpos) (by decide), fun _ => ?_⟩
  have h1 := Int.lt_tmod_of_pos x hpos
  have h2 := Int.tmod_lt_of_pos x hpos
  show -(2:Int)^31 ≤ Int.tmod x y + y ∧ Int.tmod x y + y < (2:Int)^31
  omega

theorem tdiv_small (n c : Int) (hn : 1 ≤ n ∧ n ≤ 59) (hc : 0 ≤ c) : 0 ≤ Int.tdiv n c ∧ Int.tdiv n c ≤ 59 :=
  have h0 : 0 ≤ n := Int.le_trans (by decide) hn.1
  ⟨Int.tdiv_nonneg h0 hc, Int.le_trans (Int.tdiv_le_self _ h0) hn.2⟩

theorem cpr_location_safe (lat lon : Nat × Nat) (form : Nat) (coeff : Int) (hf : form ≤ 1) (hc : coeff = 1 ∨ coeff = 4) :
    T.cpr_location.safe lat lon form coeff := by
  unfold T.cpr_location.safe
  -- substitutes the `let`s, so that the two `T.nl` calls stand in the goal for `generalize`
  simp only []
  -- of the latitude computation only the two NL values matter, and of those only that they lie in [1, 59]
  generalize h1 : T.nl _ = n1
  generalize h2 : T.nl _ = n2
  have hc0 : 0 < coeff := hc.elim (· ▸ by decide) (· ▸ by decide)
  have t1 := tdiv_small n1 coeff (h1 ▸ nl_range _) (Int.le_of_lt hc0)
  have t2 := tdiv_small n2 coeff (h2 ▸ nl_range _) (Int.le_of_lt hc0)
  clear h1 h2
  have hcm : ¬ coeff = -1 := fun h => absurd (h ▸ hc0) (by decide)
  -- a zone count as `i32`, and as the modulus of `pmod`
  have rng {x : Int} (h : 0 ≤ x ∧ x ≤ 59) : -(2:Int)^31 ≤ x - 1 ∧ x - 1 < (2:Int)^31 := by omega
  have mx {x : Int} (h : x ≤ 59) : 1 ≤ max x 1 ∧ max x 1 ≤ 1073741824 := by omega
  -- for either frame: the tests on `form` evaluate, the calls' propositions are the lemmas above, and what is left is the
  -- `as i32` of a zone count and the modulus of `pmod`
  rcases Nat.le_one_iff_eq_zero_or_eq_one.1 hf with rfl | rfl <;>
    simp only [fixed_lat_safe, nl_safe, signed_lon_safe, Int.ne_of_gt hc0, hcm, and_false, not_false_eq_true, ne_eq, implies_true,
      true_and, and_true, false_implies, true_implies, Nat.reduceEqDiff, if_true, if_false, Nat.reduceLT, Nat.reduceMul, Nat.reducePow]
  · exact ⟨fun _ => rng t1, fun _ => pmod_safe _ _ (mx t1.2)⟩
  · exact ⟨fun _ => rng t2, fun _ => rng t2, fun _ => pmod_safe _ _ (mx (Int.le_trans (Int.sub_le_self _ (by decide)) t2.2))⟩

end Sq.Safe
