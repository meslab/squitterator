/-
Facts about the `f64` primitives of `Model/Cpr.lean` (`ratTrunc`, `ratToI32`, `ratFmod`) on whole numbers, and the range
of its NL table (`CprMath.nlOf_range`).
-/
import SqModel.Model.Cpr
import Mathlib.Data.Rat.Floor
import Mathlib.Tactic.Linarith

namespace Sq

theorem ratTrunc_int_div (j : Int) (n : Nat) (hn : 0 < n) : ratTrunc ((j : Rat) / (n : Rat)) = Int.tdiv j n := by
  have hn' : (0 : Rat) < n := by exact_mod_cast hn
  unfold ratTrunc
  rcases le_or_gt 0 j with hj | hj
  · rw [if_pos (div_nonneg (by exact_mod_cast hj) hn'.le), Int.tdiv_eq_ediv_of_nonneg hj]
    exact Rat.floor_intCast_div_natCast j n
  · -- `⌈j/n⌉ = -⌊(-j)/n⌋` and `j.tdiv n = -((-j).tdiv n)`, with `-j` positive
    rw [if_neg (not_le.mpr (div_neg_of_neg_of_pos (by exact_mod_cast hj) hn')), Rat.ceil_eq_neg_floor_neg, ← neg_div,
      ← Int.cast_neg, ← neg_neg (Int.tdiv j n), ← Int.neg_tdiv, Int.tdiv_eq_ediv_of_nonneg (by omega)]
    exact congrArg Neg.neg (Rat.floor_intCast_div_natCast (-j) n)

theorem ratFmod_int (j : Int) (n : Nat) (hn : 0 < n) : ratFmod (j : Rat) (n : Rat) = ((Int.tmod j n : Int) : Rat) := by
  unfold ratFmod
  rw [ratTrunc_int_div j n hn, sub_eq_iff_eq_add]
  exact_mod_cast (Int.tmod_add_mul_tdiv j n).symm

/-- the same for a literal divisor -/
theorem ratFmod_ofNat (j : Int) (n : Nat) [n.AtLeastTwo] :
    ratFmod (j : Rat) ofNat(n) = ((fmodInt j ofNat(n) : Int) : Rat) := by
  have := ratFmod_int j ofNat(n) (Nat.pos_of_ne_zero (NeZero.ne n))
  rwa [Nat.cast_ofNat, Nat.cast_ofNat] at this

theorem ratFloor_half (x : Rat) : ratFloor (x + (1 / 2 : Rat)) = ((floorHalf x : Int) : Rat) := rfl

theorem ratToI32_int (z : Int) (h : -2147483648 ≤ z ∧ z ≤ 2147483647) : ratToI32 (z : Rat) = z := by
  rw [ratToI32, ratTrunc, Rat.floor_intCast, Rat.ceil_intCast, ite_self, min_eq_left h.2, max_eq_right h.1]

/-- the zone index difference of two 17-bit longitude fields is a small whole number -/
theorem mm_fits (X0 X1 : Nat) (nl : Int) (h0 : X0 < 131072) (h1 : X1 < 131072) (hnl : 0 ≤ nl ∧ nl ≤ 59) :
    let mm := floorHalf (((X0 : ℚ) * ((nl - 1 : ℤ) : ℚ) - (X1 : ℚ) * (nl : ℚ)) / 131072);
    (-2147483648 ≤ mm ∧ mm ≤ 2147483647) := by
  intro mm
  have n0 : (0 : ℚ) ≤ (nl : ℚ) := Int.cast_nonneg hnl.1
  have n1 : (nl : ℚ) ≤ 59 := by exact_mod_cast hnl.2
  have b0 : (X0 : ℚ) ≤ 131072 := Nat.cast_le_ofNat.mpr h0.le
  have b1 : (X1 : ℚ) ≤ 131072 := Nat.cast_le_ofNat.mpr h1.le
  -- |X0 (nl - 1) - X1 nl| ≤ 60 · 2^17, from the four products of the bounds
  have p0 := mul_nonneg X0.cast_nonneg n0
  have p1 := mul_nonneg X1.cast_nonneg n0
  have q0 := mul_le_mul b0 n1 n0 (by norm_num)
  have q1 := mul_le_mul b1 n1 n0 (by norm_num)
  -- `floorHalf` unfolds to Mathlib's `⌊· + 1/2⌋`; the floor lemmas below do not see through the name
  show -2147483648 ≤ ⌊(_ : ℚ)⌋ ∧ ⌊(_ : ℚ)⌋ ≤ 2147483647
  rw [Int.le_floor, ← Int.lt_add_one_iff, Int.floor_lt]; push_cast
  exact ⟨by linarith only [b0, p0, q1], by linarith only [q0, p1]⟩

end Sq

namespace Sq.CprMath

theorem nlOf_range (x : ℚ) : 1 ≤ nlOf x ∧ nlOf x ≤ 59 := by
  simp only [nlOf]
  split
  · rename_i b hb
    have hm := List.mem_of_find?_eq_some hb
    have : ∀ c ∈ Gen.nlBoundaries, 1 ≤ c.2 ∧ c.2 ≤ 59 := by decide
    have := this b hm
    omega
  · decide

end Sq.CprMath
