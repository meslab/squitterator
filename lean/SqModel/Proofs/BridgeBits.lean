/-
Bridge, bit layer and frame gate (`Generated/TransBits.lean`, `TransFrame.lean`).  The code computes in `u32`/`u16`, so its
shifts are `shlW`, the wrapping ones, where the model shifts unbounded naturals.  In the field extractors, `ma_code` and
`graytobin` no shift leaves its word (`shlW_fits`); in the CRC loops the wrapping is meant, and there the code's registers
are the model's `BitVec 32` read as naturals (`foldl_range_sim`).  `get_message` is then the model's filter by filter.
-/
import SqModel.Generated.TransFrame
import SqModel.Proofs.BridgeReminder
import SqModel.Proofs.Bits
import SqModel.Model.Frame
import SqModel.Model.Fields

namespace Sq.Bridge
open Sq

theorem shl_lt {a b n : Nat} (h : a < 2 ^ n) : a <<< b < 2 ^ (n + b) := by
  rw [Nat.shiftLeft_eq, Nat.pow_add]
  exact Nat.mul_lt_mul_of_lt_of_le h (Nat.le_refl _) (Nat.two_pow_pos b)

theorem shlW_fits {w a b n : Nat} (h : a < 2 ^ b) (hn : b + n ≤ w) : shlW w a n = a <<< n :=
  Nat.mod_eq_of_lt (Nat.lt_of_lt_of_le (shl_lt h) (Nat.pow_le_pow_right (by decide) hn))

theorem bit_location_eq (p : Nat) : T.bit_location p = bitLocation p := rfl

/-- `init` has at most `b` bits, every digit of `l` adds four and the last shift `n`: while all of this fits 32 bits the
    wrapping fold of the code is the model's `midFold` -/
theorem midFoldW (l : List Nat) (init b n : Nat) (h : init < 2 ^ b) (hn : b + 4 * l.length + n ≤ 32) :
    shlW 32 (l.foldl (fun a x => shlW 32 a 4 ||| x &&& 0xF) init) n = midFold init l <<< n := by
  induction l generalizing init b with
  | nil => exact shlW_fits (a := init) h hn
  | cons x xs ih =>
    rw [List.length_cons, Nat.mul_succ, ← Nat.add_assoc, Nat.add_right_comm b] at hn
    rw [List.foldl_cons, shlW_fits h (Nat.le_trans (Nat.le_add_right _ _) (Nat.le_trans (Nat.le_add_right _ _) hn))]
    refine ih _ (b + 4) (Nat.or_lt_two_pow (shl_lt h) (Nat.lt_of_le_of_lt Nat.and_le_right ?_)) hn
    exact Nat.lt_of_lt_of_le (by decide : 0xF < 2 ^ 4) (Nat.pow_le_pow_right (by decide) (Nat.le_add_left 4 b))

theorem mask_lt (x sbi : Nat) (hs : sbi < 4) : x &&& (0xF >>> sbi) < 2 ^ (4 - sbi) := by
  have h2 : ∀ s : Fin 4, 0xF >>> s.val < 2 ^ (4 - s.val) := by decide
  exact Nat.lt_of_le_of_lt Nat.and_le_right (h2 ⟨sbi, hs⟩)

/-- No lower bound on `sb`: at position 0 (a trap in the code, see `bitLocation`) both sides truncate `0 - 1` alike -/
theorem range_value_of_width (m : Msg) (sb eb : Nat) (hw : eb < sb + 32) : T.range_value m sb eb = rangeValue m sb eb := by
  obtain ⟨hs, hsb⟩ := bitLocation_spec sb
  obtain ⟨-, heb⟩ := bitLocation_spec eb
  have hw' : eb - 1 ≤ sb - 1 + 31 :=
    Nat.le_trans (Nat.sub_le_sub_right (Nat.le_of_lt_succ hw) 1) (Nat.add_le_add_right (Nat.le_add_of_sub_le (Nat.le_refl _)) 30)
  rw [← hsb, ← heb] at hw'
  clear hsb heb hw
  rw [T.range_value, rangeValue, bit_location_eq, bit_location_eq]
  generalize bitLocation sb = ls at *
  generalize bitLocation eb = le at *
  obtain ⟨i, s⟩ := ls
  obtain ⟨j, e⟩ := le
  dsimp only at *
  -- the same test on both sides, then the three arms on the number of digits from the first to the last
  refine ite_congr rfl (fun _ => rfl) fun hc => congrArg some ?_
  obtain ⟨d, rfl⟩ := Nat.exists_eq_add_of_le (Nat.le_of_not_lt fun h => hc (.inl h))
  rw [Nat.add_sub_cancel_left, Nat.add_sub_add_left]
  rcases d with _ | d
  · rfl
  -- the width again, now as what `midFoldW` asks for: the rest of the first digit, `d` whole digits, `e + 1` bits of the last
  have hfit : 4 - s + 4 * d + (e + 1) ≤ 32 := by
    rw [Nat.mul_add, Nat.add_assoc, Nat.add_assoc, Nat.add_le_add_iff_left] at hw'
    refine Nat.le_of_add_le_add_right (b := s) ?_
    rw [Nat.add_right_comm _ _ s, Nat.add_right_comm _ _ s, Nat.sub_add_cancel (Nat.le_of_lt hs), Nat.add_comm 4,
      Nat.add_comm 32]
    exact Nat.succ_le_succ hw'
  rcases d with _ | k
  · exact congrArg (· ||| _) (midFoldW [] _ _ _ (mask_lt _ s hs) hfit)
  · exact congrArg (· ||| _) (midFoldW _ _ _ _ (mask_lt _ s hs) (Nat.le_trans
      (Nat.add_le_add_right (Nat.add_le_add_left (Nat.mul_le_mul_left 4 (List.length_take_le ..)) _) _) hfit))

/-- `range_value`: the code (wrapping 32-bit shifts) computes the model's value for every field of at most 32 bits
    (`h1`, here and in the next two, is the caller's `1 ≤ sb`; `range_value_of_width` shows it is not needed) -/
theorem range_value_eq (m : Msg) (sb eb : Nat) (h1 : 1 ≤ sb) (hw : eb < sb + 32) :
    T.range_value m sb eb = rangeValue m sb eb :=
  range_value_of_width m sb eb hw

theorem flag_and_range_value_eq (m : Msg) (flag sb eb : Nat) (h1 : 1 ≤ sb) (hw : eb < sb + 32) :
    T.flag_and_range_value m flag sb eb = flagAndRangeValue m flag sb eb := by
  simp only [T.flag_and_range_value, flagAndRangeValue, flagBit, range_value_eq m sb eb h1 hw, bit_location_eq]

theorem status_flag_and_range_value_eq (m : Msg) (status flag sb eb : Nat) (h1 : 1 ≤ sb) (hw : eb < sb + 32) :
    T.status_flag_and_range_value m status flag sb eb = statusFlagAndRangeValue m status flag sb eb := by
  simp only [T.status_flag_and_range_value, statusFlagAndRangeValue, flagBit, flag_and_range_value_eq m flag sb eb h1 hw,
    bit_location_eq]

theorem get_downlink_format_eq (m : Msg) : T.get_downlink_format m = getDownlinkFormat m :=
  range_value_of_width m 1 5 (by decide)

theorem extract_bit_eq (v b : Nat) : T.extract_bit v b = extractBit v b := rfl

theorem extractBit_lt (v b : Nat) : extractBit v b < 2 := and_one_lt _

theorem shl16_bit (v b s : Nat) (hs : s ≤ 15) : shlW 16 (extractBit v b) s = extractBit v b <<< s :=
  shlW_fits (b := 1) (extractBit_lt v b) (Nat.add_comm 1 s ▸ Nat.succ_le_succ hs)

/-- `ma_code`: the same fold over the fourteen `(nibble, bit)` positions of the source; each step ors in one bit
    below 2^14, where the 16-bit shift of the code does not wrap -/
theorem ma_code_eq (m : Msg) : T.ma_code m = some (maCode m) := by
  refine congrArg some (foldl_congr (fun r pi _ => ?_) 0)
  show r ||| shlW 16 (extractBit (nib m pi.1.1) pi.1.2 % 65536) (13 - pi.2)
    = r ||| extractBit (nib m pi.1.1) pi.1.2 <<< (13 - pi.2)
  rw [Nat.mod_eq_of_lt (Nat.lt_trans (extractBit_lt _ _) (by decide)),
    shl16_bit _ _ _ (Nat.le_trans (Nat.sub_le 13 _) (by decide))]

/-- the Gray loop of the code keeps its three variables in another order than the model's `grayLoop` -/
theorem gray_loop_eq (n : Nat) :
    ((List.range (16 + 1 - 1)).foldl (fun (st_ : Bool × Nat × Nat) (_ : Nat) =>
      let (cp, mask, result) := st_
      let cp := (if (n &&& mask) ≠ 0 then (let cp := !cp; cp) else cp)
      let result := (if cp = true then (let result := result ||| mask; result) else result)
      let mask := mask >>> 1
      (cp, mask, result)) (false, 0x80, 0)).2.2 = grayLoop n := by
  rw [grayLoop, Nat.add_sub_cancel]
  -- on the literal `List.range 16` unification would run the loops instead of matching the two folds
  generalize List.range 16 = l
  refine congrArg (·.2.2) (List.foldl_hom (fun s : Nat × Bool × Nat => (s.2.1, s.1, s.2.2)) (init := (0x80, false, 0)) ?_)
  intro ⟨mask, cp, result⟩ _
  simp only [bne_iff_ne]

theorem graytobin_eq (m : Msg) : T.graytobin m = graytobin m := by
  simp only [T.graytobin, ma_code_eq, graytobin, graytobinOfCode, extract_bit_eq, shl16_bit, Nat.reduceLeDiff, gray_loop_eq]

theorem and_two_pow_ne_zero (x i : Nat) : (x &&& 2 ^ i ≠ 0) ↔ x.testBit i = true := by
  have h (j : Nat) : (x &&& 2 ^ i).testBit j = (x.testBit j && decide (i = j)) := by
    rw [Nat.testBit_and, Nat.testBit_two_pow]
  constructor
  · intro hne
    obtain ⟨j, hj⟩ := Nat.exists_testBit_of_ne_zero hne
    rw [h, Bool.and_eq_true, decide_eq_true_eq] at hj
    exact hj.2 ▸ hj.1
  · intro hb h0
    have := h i
    rw [h0, Nat.zero_testBit, hb, decide_eq_true rfl] at this
    exact Bool.noConfusion this

theorem top_iff (x : Nat) : (x &&& 0x80000000 ≠ 0) ↔ (BitVec.ofNat 32 x).msb = true := by
  rw [BitVec.msb_eq_getLsbD_last, BitVec.getLsbD_ofNat, decide_eq_true (by decide : 32 - 1 < 32), Bool.true_and]
  exact and_two_pow_ne_zero x 31

theorem shlW32_toNat (x : Nat) : shlW 32 x 1 = ((BitVec.ofNat 32 x) <<< 1).toNat := by
  rw [shlW, BitVec.toNat_shiftLeft, BitVec.toNat_ofNat, Nat.shiftLeft_eq, Nat.shiftLeft_eq, Nat.mod_mul_mod]

/-- one round of the `crc56` loop -/
theorem crc56_step (x : Nat) :
    shlW 32 (if x &&& 0x80000000 ≠ 0 then x ^^^ 0xFFFA0480 else x) 1 = (crcStep56 (BitVec.ofNat 32 x)).toNat := by
  rw [shlW32_toNat, crcStep56, apply_ite (BitVec.ofNat 32), BitVec.ofNat_xor]
  exact congrArg (fun v : BitVec 32 => (v <<< 1).toNat) (ite_congr (propext (top_iff x)) (fun _ => rfl) fun _ => rfl)

theorem foldl_range_sim {α β : Type} {fT : α → α} {fM : β → β} {R : β → α} {A : α → β} (hA : ∀ y, A (R y) = y)
    (hstep : ∀ t, fT t = R (fM (A t))) (n : Nat) (t : α) :
    (List.range (n + 1)).foldl (fun st _ => fT st) t = R (iter fM (n + 1) (A t)) := by
  induction n generalizing t with
  | zero => exact hstep t
  | succ n ih => rw [List.range_succ_eq_map, List.foldl_cons, List.foldl_map, ih, hstep, hA]; rfl

theorem crc56_eq (m : Msg) : T.crc56 m = crc56 m := by
  rw [T.crc56, crc56, range_value_of_width m 1 32 (by decide), BitVec.toNat_ushiftRight]
  -- `for _ in 0..32`: `foldl_range_sim` takes the number of rounds less one
  exact congrArg (· >>> 8) (foldl_range_sim (fun _ => BitVec.ofNat_toNat ..) crc56_step 31 _)

def natsOf (s : Crc112State) : Nat × Nat × Nat := (s.data.toNat, s.data1.toNat, s.data2.toNat)
def stateOf (t : Nat × Nat × Nat) : Crc112State := ⟨BitVec.ofNat 32 t.1, BitVec.ofNat 32 t.2.1, BitVec.ofNat 32 t.2.2⟩

theorem stateOf_natsOf (s : Crc112State) : stateOf (natsOf s) = s := by
  cases s; simp [stateOf, natsOf]

/-- the loop body of `crc112` as the translator emits it -/
def crc112BodyT (st_ : Nat × Nat × Nat) : Nat × Nat × Nat :=
  let (data, data1, data2) := st_
  let data := (if data &&& 0x80000000 ≠ 0 then (let data := data ^^^ 0xFFFA0480; data) else data)
  let data := shlW 32 data 1
  let data := (if data1 &&& 0x80000000 ≠ 0 then (let data := data ||| 1; data) else data)
  let data1 := shlW 32 data1 1
  let data1 := (if data2 &&& 0x80000000 ≠ 0 then (let data1 := data1 ||| 1; data1) else data1)
  let data2 := shlW 32 data2 1
  (data, data1, data2)

/-- the first register steps as in `crc56`, the others only shift; each takes in the top bit of the next -/
theorem crc112_step (t : Nat × Nat × Nat) : crc112BodyT t = natsOf (crcStep112 (stateOf t)) := by
  obtain ⟨a, b, c⟩ := t
  have carry (z y : Nat) (v : BitVec 32) (hy : y = v.toNat) :
      (if z &&& 0x80000000 ≠ 0 then y ||| 1 else y) = (if (BitVec.ofNat 32 z).msb then v ||| 1#32 else v).toNat := by
    rw [apply_ite BitVec.toNat, BitVec.toNat_or, ← hy]
    exact ite_congr (propext (top_iff z)) (fun _ => rfl) fun _ => rfl
  exact Prod.ext (carry b _ _ (crc56_step a)) (Prod.ext (carry c _ _ (shlW32_toNat b)) (shlW32_toNat c))

theorem crc112_eq (m : Msg) : T.crc112 m = crc112 m := by
  -- the third register is loaded with a wrapping shift in the code and with an unbounded one in the model
  have e : BitVec.ofNat 32 (((rangeValue m 65 88).map (fun x => shlW 32 x 8)).getD 0)
      = BitVec.ofNat 32 (((rangeValue m 65 88).getD 0) <<< 8) := by
    cases rangeValue m 65 88 with
    | none => rfl
    | some v => exact BitVec.eq_of_toNat_eq (by simp [shlW])
  rw [T.crc112, crc112, range_value_of_width m 1 32 (by decide), range_value_of_width m 33 64 (by decide),
    range_value_of_width m 65 88 (by decide), BitVec.toNat_ushiftRight]
  -- name the loop before comparing: matching `let (data, _, _) := ..` against a projection would run it
  generalize hX : List.foldl _ _ _ = X
  rw [hX.symm.trans (foldl_range_sim stateOf_natsOf crc112_step 87 _), stateOf, e]
  rfl

theorem get_crc_eq (m : Msg) (df : Nat) : T.get_crc m df = getCrc m df := by
  simp [T.get_crc, getCrc, crc56_eq, crc112_eq]

/-- the closure `syndrome` of `parity_ok`, which `get_icao` repeats.  The code computes `len - 23` in `u32`, a trap on a
    vector of fewer than six digits; translation and model truncate it alike, so no lower bound on the length is needed -/
theorem syndrome_eq (m : Msg) (df : Nat) (hl : m.length < 2 ^ 30) :
    (T.range_value m (m.length * 4 % 4294967296 - 23) (m.length * 4 % 4294967296)).map (fun pi => pi ^^^ T.get_crc m df)
      = syndromeOf m df := by
  have h32 : m.length * 4 < 4294967296 := Nat.mul_lt_mul_of_lt_of_le hl (Nat.le_refl 4) (by decide)
  rw [Nat.mod_eq_of_lt h32, get_crc_eq, range_value_of_width m _ _
    (Nat.lt_of_le_of_lt (Nat.le_add_of_sub_le (Nat.le_refl _)) (Nat.add_lt_add_left (by decide) _))]
  rfl

/-- `h6`, here and in `get_icao_eq`, is what keeps `len - 23` from trapping in the code; the equation holds without it (`syndrome_eq`) -/
theorem parity_ok_eq (m : Msg) (h6 : 6 ≤ m.length) (hl : m.length < 2 ^ 30) : T.parity_ok m = parityOk m := by
  rw [T.parity_ok, parityOk, get_downlink_format_eq]
  simp only [syndrome_eq m _ hl]
  -- the code tests the format with `if`, the model matches on it
  cases getDownlinkFormat m with
  | none => rfl
  | some df =>
    by_cases h17 : df = 17
    · subst h17; rfl
    by_cases h18 : df = 18
    · subst h18; rfl
    by_cases h11 : df = 11
    · subst h11; cases syndromeOf m 11 <;> rfl
    dsimp only
    rw [if_neg (not_or.2 ⟨h17, h18⟩), if_neg h11]
    split
    next h => exact absurd (Option.some.inj h) h17
    next h => exact absurd (Option.some.inj h) h18
    next h => exact absurd (Option.some.inj h) h11
    next => rfl

/-- `clean_squitter` on the characters of a line: the digit sequence, then the length gate -/
theorem clean_squitter_eq (cs : List Char) : T.clean_squitter cs = cleanDigits (cs.filterMap charToDigit16) := by
  simp only [T.clean_squitter, cleanDigits]

theorem charToDigit16_eq (c : Char) : charToDigit16 c = hexVal c.toNat := rfl

theorem char_toNat_ofNat (b : Nat) (h : b.isValidChar) : (Char.ofNat b).toNat = b := by
  simp [Char.ofNat, h, Char.ofNatAux, Char.toNat]

theorem charToDigit16_ofNat (b : Nat) (hb : b < 128) : charToDigit16 (Char.ofNat b) = hexVal b := by
  rw [charToDigit16_eq, char_toNat_ofNat b (Or.inl (Nat.lt_trans hb (by decide)))]

theorem hexDigits_ascii (line : List Nat) (h : ∀ b ∈ line, b < 128) :
    (line.map Char.ofNat).filterMap charToDigit16 = hexDigits line := by
  rw [List.filterMap_map]
  refine filterMap_congr fun b hb => ?_
  rw [Function.comp_apply]
  exact charToDigit16_ofNat b (h b hb)

theorem get_icao_eq (m : Msg) (df : Nat) (h6 : 6 ≤ m.length) (hl : m.length < 2 ^ 30) : T.get_icao m df = getIcao m df := by
  simp only [T.get_icao, getIcao, syndrome_eq m df hl, range_value_of_width m 9 32 (by decide), syndromeOf]

/-- `get_message` on the characters of a line is the model's `messageOfDigits` of the line's digit sequence -/
theorem get_message_eq (cs : List Char) : T.get_message cs = messageOfDigits (cs.filterMap charToDigit16) := by
  unfold T.get_message messageOfDigits
  -- the last two filters as one: both are compared on a vector that passed the first
  rw [Option.filter_filter (q := T.parity_ok), Option.filter_filter (q := parityOk)]
  refine filter_congr (filter_congr (filter_congr (clean_squitter_eq cs) fun a _ => ?_) fun a _ => ?_) fun a ha => ?_
  · exact Bool.decide_or ..
  · rw [get_downlink_format_eq, lengthMatchesDF]
    cases getDownlinkFormat a with
    | none => rfl
    | some df => exact ite_congr (propext (and_iff_right (Nat.zero_le df))) (fun _ => rfl) fun _ => rfl
  · -- `reminder` is 0 in the code as in the model on every vector of 14 or 28 digits
    have hlen : a.length = 14 ∨ a.length = 28 :=
      of_decide_eq_true (Option.filter_eq_some_iff.1 (Option.eq_some_of_filter_eq_some ha)).2
    rw [T_reminder_zero a (by omega), reminder_eq_zero a (by omega), parity_ok_eq a (by omega) (by omega)]

/-- the whole gate, end to end: on a line of ASCII bytes the code's `get_message` (characters, wrapping `u32` arithmetic,
    regenerated from the source) accepts exactly what the model's `getMessage` (bytes, unbounded naturals) accepts, and
    yields the same nibble vector.  Bytes >= 0x80 reach the code as the characters of the lossy UTF-8 decoding, none of
    which is an ASCII hex digit; that step (`String::from_utf8_lossy`) is exercised by the correspondence check, not proved. -/
theorem get_message_bytes (line : List Nat) (h : ∀ b ∈ line, b < 128) :
    T.get_message (line.map Char.ofNat) = getMessage line := by
  rw [get_message_eq, hexDigits_ascii line h]; rfl

end Sq.Bridge
