/-
`range_value` computes the field it is named after:
`rangeValue m sb eb = some (Spec.field m sb eb)` for every nibble vector, every `1 ≤ sb ≤ eb ≤ 4·|m|`.
Two layers: the `natOf` lemmas say what a digit contributes to the frame's number and serve one statement, `field_nib` (a digit is
the four bits it holds); everything else goes through it and an algebra of `field` alone, stated additively so that callers need
no subtraction (`field_split` and its halves `field_div`, `field_mod`), with positions written `4·i + s + 1` (`pos_eq`).
-/
import SqModel.Spec.Bits
import SqModel.Proofs.Basic

namespace Sq
open Spec

theorem natOf_foldl (l : List Nat) (a : Nat) :
    l.foldl (fun a x => a * 16 + x) a = a * 16 ^ l.length + natOf l := by
  unfold natOf
  induction l generalizing a with
  | nil => exact (Nat.mul_one a).symm
  | cons x xs ih =>
    rw [List.foldl_cons, List.foldl_cons, ih, ih (0 * 16 + x), List.length_cons, Nat.pow_succ, Nat.zero_mul,
      Nat.zero_add, Nat.add_mul, Nat.mul_assoc, Nat.mul_comm 16, Nat.add_assoc]

theorem natOf_append (a b : List Nat) : natOf (a ++ b) = natOf a * 16 ^ b.length + natOf b := by
  unfold natOf
  rw [List.foldl_append, natOf_foldl]
  rfl

theorem natOf_nil : natOf [] = 0 := rfl
theorem natOf_singleton (x : Nat) : natOf [x] = x := by simp [natOf]

theorem allNib_drop {m : List Nat} (h : AllNib m) (k : Nat) : AllNib (m.drop k) :=
  fun x hx => h x (List.mem_of_mem_drop hx)

theorem natOf_lt (l : List Nat) (h : AllNib l) : natOf l < 16 ^ l.length := by
  induction l with
  | nil => decide
  | cons x xs ih =>
    rw [← List.singleton_append, natOf_append, natOf_singleton, List.length_append, List.length_singleton, Nat.add_comm 1, Nat.pow_succ]
    calc x * 16 ^ xs.length + natOf xs
        < x * 16 ^ xs.length + 16 ^ xs.length := Nat.add_lt_add_left (ih fun y hy => h y (List.mem_cons_of_mem x hy)) _
      _ = (x + 1) * 16 ^ xs.length := (Nat.succ_mul ..).symm
      _ ≤ 16 * 16 ^ xs.length := Nat.mul_le_mul_right _ (h x List.mem_cons_self)
      _ = 16 ^ xs.length * 16 := Nat.mul_comm ..

theorem natOf_take (m : List Nat) (h : AllNib m) (k : Nat) :
    natOf (m.take k) = natOf m / 16 ^ (m.length - k) := by
  have hl : (m.drop k).length = m.length - k := by simp
  have e : natOf m = natOf (m.take k) * 16 ^ (m.length - k) + natOf (m.drop k) := by
    conv => lhs; rw [← List.take_append_drop k m]
    rw [natOf_append, hl]
  have hlt := natOf_lt (m.drop k) (allNib_drop h k)
  rw [hl] at hlt
  have hp : 0 < 16 ^ (m.length - k) := Nat.pow_pos (by decide)
  rw [e, Nat.mul_comm, Nat.mul_add_div hp, Nat.div_eq_of_lt hlt]
  simp

theorem nib_eq_getElem (m : List Nat) (i : Nat) (hi : i < m.length) : nib m i = m[i] := by
  simp [nib, List.getD, hi]

theorem nib_lt (m : List Nat) (h : AllNib m) (i : Nat) : nib m i < 16 := by
  unfold nib
  by_cases hi : i < m.length
  · simp [List.getD, hi]; exact h _ (List.getElem_mem hi)
  · simp [List.getD, hi]

theorem bitLocation_eq (p : Nat) : bitLocation p = ((p - 1) / 4, (p - 1) % 4) := by
  unfold bitLocation
  rw [Nat.shiftRight_eq_div_pow, show (3 : Nat) = 2 ^ 2 - 1 by decide, Nat.and_two_pow_sub_one_eq_mod]

theorem bitLocation_spec (p : Nat) : (bitLocation p).2 < 4 ∧ 4 * (bitLocation p).1 + (bitLocation p).2 = p - 1 := by
  rw [bitLocation_eq]; exact ⟨Nat.mod_lt _ (by decide), Nat.div_add_mod _ 4⟩

theorem field_lt (m : Msg) (sb eb : Nat) : field m sb eb < 2 ^ (eb + 1 - sb) :=
  Nat.mod_lt _ (Nat.pow_pos (by decide))

theorem field_bit_lt (m : Msg) (p : Nat) : field m p p < 2 := by
  have := field_lt m p p
  rwa [Nat.add_sub_cancel_left] at this

theorem bit_01 (m : Msg) (p : Nat) : field m p p = 0 ∨ field m p p = 1 :=
  Nat.le_one_iff_eq_zero_or_eq_one.mp (Nat.le_of_lt_succ (field_bit_lt m p))

theorem field_split (m : Msg) (a b p : Nat) (h1 : a ≤ b + 1) (h2 : b + p ≤ 4 * m.length) :
    field m a (b + p) = field m a b * 2 ^ p + field m (b + 1) (b + p) := by
  -- with `x` the frame shifted right down to bit `b + p` and `w = b + 1 - a`, the three fields are `x % (2^p * 2^w)`,
  -- `x / 2^p % 2^w` and `x % 2^p`: `Nat.mod_mul`
  unfold field
  have e1 : 4 * m.length - b = (4 * m.length - (b + p)) + p := by
    rw [Nat.sub_add_eq, Nat.sub_add_cancel (Nat.le_sub_of_add_le' h2)]
  rw [e1, Nat.add_right_comm b p 1, Nat.add_comm (b + 1) p, Nat.add_sub_assoc h1, Nat.add_sub_cancel,
    Nat.pow_add, Nat.pow_add,
    ← Nat.div_div_eq_div_mul, Nat.mod_mul, Nat.mul_comm (2 ^ p), Nat.add_comm]

theorem field_tail_lt (m : Msg) (b p : Nat) : field m (b + 1) (b + p) < 2 ^ p := by
  have := field_lt m (b + 1) (b + p)
  rwa [Nat.add_right_comm, Nat.add_sub_cancel_left] at this

theorem field_div (m : Msg) (a b p : Nat) (h1 : a ≤ b + 1) (h2 : b + p ≤ 4 * m.length) :
    field m a (b + p) / 2 ^ p = field m a b := by
  rw [field_split m a b p h1 h2, Nat.add_comm, Nat.add_mul_div_right _ _ (Nat.pow_pos (by decide)),
    Nat.div_eq_of_lt (field_tail_lt m b p), Nat.zero_add]

theorem field_mod (m : Msg) (a b p : Nat) (h1 : a ≤ b + 1) (h2 : b + p ≤ 4 * m.length) :
    field m a (b + p) % 2 ^ p = field m (b + 1) (b + p) := by
  rw [field_split m a b p h1 h2, Nat.mul_add_mod_of_lt (field_tail_lt m b p)]

/-- appending the next bit to a field (`A` is whatever stands to its left) -/
theorem field_snoc (m : Msg) (sb eb A : Nat) (h1 : sb ≤ eb + 1) (h2 : eb + 1 ≤ 4 * m.length) :
    2 * (A + field m sb eb) + field m (eb + 1) (eb + 1) = 2 * A + field m sb (eb + 1) := by
  rw [field_split m sb eb 1 h1 h2, Nat.pow_one, Nat.mul_add, Nat.add_assoc, Nat.mul_comm 2 (field m sb eb)]

theorem field_sub (m : Msg) (sb eb a b : Nat) (h1 : sb ≤ a) (h2 : a ≤ b) (h3 : b ≤ eb)
    (h4 : eb ≤ 4 * m.length) :
    field m a b = (field m sb eb / 2 ^ (eb - b)) % 2 ^ (b + 1 - a) := by
  -- the division by `2 ^ (eb - b)` moves inside the `%` (`Nat.mod_mul_right_div_self`), where the two divisions add up to the one on
  -- the left; of the two `%` the narrower then swallows the wider (`Nat.mod_mul_right_mod`)
  unfold field
  generalize natOf m = P
  have hb : b + 1 ≤ eb + 1 := Nat.succ_le_succ h3
  have ha : a ≤ b + 1 := Nat.le_succ_of_le h2
  rw [← Nat.sub_add_sub_cancel hb (Nat.le_trans h1 ha), Nat.add_sub_add_right, Nat.pow_add,
    Nat.mod_mul_right_div_self, Nat.div_div_eq_div_mul, ← Nat.pow_add, Nat.sub_add_sub_cancel h4 h3,
    ← Nat.sub_add_sub_cancel ha h1, Nat.pow_add, Nat.mod_mul_right_mod]

theorem field_nib (m : Msg) (h : AllNib m) (i : Nat) (hi : i < m.length) :
    field m (4 * i + 1) (4 * i + 4) = nib m i := by
  unfold field
  rw [Nat.add_right_comm, Nat.add_sub_cancel_left, show 4 * m.length - (4 * i + 4) = 4 * (m.length - (i + 1)) from (Nat.mul_sub 4 _ (i + 1)).symm,
    Nat.pow_mul, ← natOf_take m h (i + 1), List.take_succ_eq_append_getElem hi, natOf_append, natOf_singleton,
    ← nib_eq_getElem m i hi]
  exact Nat.mul_add_mod_of_lt (nib_lt m h i)

/-- the first digit of `range_value`, masked: its bits `s+1..4` -/
theorem nib_low (m : Msg) (h : AllNib m) (i s : Nat) (hi : i < m.length) (hs : s < 4) :
    nib m i &&& (0xF >>> s) = field m (4 * i + s + 1) (4 * i + 4) := by
  have hmask : ∀ s : Fin 4, 0xF >>> s.val = 2 ^ (4 - s.val) - 1 := by decide
  have e : 4 * i + 4 = 4 * i + s + (4 - s) := by omega
  rw [hmask ⟨s, hs⟩, Nat.and_two_pow_sub_one_eq_mod, ← field_nib m h i hi, e]
  exact field_mod m _ _ _ (Nat.succ_le_succ (Nat.le_add_right _ _)) (by omega)

theorem field_shr (m : Msg) (a j e : Nat) (ha : a ≤ 4 * j + (e + 1) + 1) (he : e < 4) (hj : j < m.length) :
    field m a (4 * j + 4) >>> (3 - e) = field m a (4 * j + (e + 1)) := by
  rw [Nat.shiftRight_eq_div_pow, show 4 * j + 4 = 4 * j + (e + 1) + (3 - e) by omega]
  exact field_div m _ _ _ ha (by omega)

/-- the last digit of `range_value`, shifted: its bits `1..e+1` -/
theorem nib_high (m : Msg) (h : AllNib m) (j e : Nat) (hj : j < m.length) (he : e < 4) :
    nib m j >>> (3 - e) = field m (4 * j + 1) (4 * j + (e + 1)) := by
  rw [← field_nib m h j hj]
  exact field_shr m _ j e (Nat.succ_le_succ (Nat.le_add_right _ _)) he hj

theorem field_or_high (m : Msg) (h : AllNib m) (a j e : Nat) (ha : a ≤ 4 * j + 1) (hj : j < m.length) (he : e < 4) :
    field m a (4 * j) <<< (e + 1) ||| nib m j >>> (3 - e) = field m a (4 * j + (e + 1)) := by
  rw [nib_high m h j e hj he, ← Nat.shiftLeft_add_eq_or_of_lt (field_tail_lt m _ _), Nat.shiftLeft_eq]
  exact (field_split m _ _ _ ha (by omega)).symm

theorem midFold_field (m : Msg) (h : AllNib m) (a k i : Nat) (ha : a ≤ 4 * i + 1) (hk : i + k ≤ m.length) :
    midFold (field m a (4 * i)) ((m.drop i).take k) = field m a (4 * (i + k)) := by
  induction k generalizing i with
  | zero => rfl
  | succ k ih =>
    have hi : i < m.length := Nat.lt_of_lt_of_le (Nat.lt_add_of_pos_right (Nat.succ_pos k)) hk
    have hx : nib m i &&& 0xF = nib m i := Nat.and_two_pow_sub_one_of_lt_two_pow (n := 4) (nib_lt m h i)
    have hs := field_split m a (4 * i) 4 ha (Nat.mul_le_mul_left 4 hi)
    rw [field_nib m h i hi, ← Nat.mul_succ] at hs
    have := ih (i + 1) (Nat.le_trans ha (Nat.succ_le_succ (Nat.le_add_right _ 4))) (by rwa [Nat.add_right_comm])
    unfold midFold at this ⊢
    rw [List.drop_eq_getElem_cons hi, List.take_succ_cons, ← nib_eq_getElem m i hi, List.foldl_cons, hx,
      ← Nat.shiftLeft_add_eq_or_of_lt (nib_lt m h i), Nat.shiftLeft_eq, ← hs, this, Nat.add_right_comm, Nat.add_assoc]

theorem pos_eq (p : Nat) (h : 1 ≤ p) : ∃ i s, s < 4 ∧ p = 4 * i + s + 1 :=
  ⟨(p - 1) / 4, (p - 1) % 4, Nat.mod_lt _ (by decide), by rw [Nat.div_add_mod, Nat.sub_add_cancel h]⟩

theorem bitLocation_add (i s : Nat) (hs : s < 4) : bitLocation (4 * i + s + 1) = (i, s) := by
  rw [bitLocation_eq, Nat.add_sub_cancel, Nat.mul_add_div (by decide), Nat.mul_add_mod, Nat.div_eq_of_lt hs,
    Nat.mod_eq_of_lt hs]
  rfl

theorem rangeValue_eq_field (m : Msg) (h : AllNib m) (sb eb : Nat)
    (h1 : 1 ≤ sb) (h2 : sb ≤ eb) (h3 : eb ≤ 4 * m.length) :
    rangeValue m sb eb = some (field m sb eb) := by
  obtain ⟨i, s, hs, rfl⟩ := pos_eq sb h1
  obtain ⟨j, e, he, rfl⟩ := pos_eq eb (Nat.le_trans h1 h2)
  obtain ⟨hj, hij, hc⟩ : j < m.length ∧ i ≤ j ∧ ¬ (j < i ∨ j = i ∧ e < s) := by omega
  obtain ⟨d, rfl⟩ := Nat.exists_eq_add_of_le hij
  rw [rangeValue, bitLocation_add i s hs, bitLocation_add (i + d) e he]
  dsimp only   -- the components of the two pairs, put in for the `let`s
  rw [if_neg hc, nib_low m h i s (Nat.lt_of_le_of_lt hij hj) hs, Nat.add_sub_cancel_left, Nat.add_assoc (4 * (i + d))]
  congr 1
  cases d with
  | zero => exact field_shr m _ i e (Nat.le_succ_of_le h2) he hj
  | succ d =>
    have ha : 4 * i + s + 1 ≤ 4 * (i + 1) + 1 := Nat.succ_le_succ (Nat.add_le_add_left (Nat.le_of_lt hs) _)
    have ha' : 4 * (i + 1) + 1 ≤ 4 * (i + (d + 1)) + 1 :=
      Nat.succ_le_succ (Nat.mul_le_mul_left 4 (Nat.add_le_add_left (Nat.succ_le_succ (Nat.zero_le d)) i))
    -- arm `1` is arm `_` with no digit in between
    have key : (midFold (field m (4 * i + s + 1) (4 * i + 4)) ((m.drop (i + 1)).take (d + 1 - 1)) <<< (e + 1))
        ||| nib m (i + (d + 1)) >>> (3 - e) = field m (4 * i + s + 1) (4 * (i + (d + 1)) + (e + 1)) := by
      rw [Nat.add_sub_cancel, show 4 * i + 4 = 4 * (i + 1) from rfl,
        midFold_field m h _ _ _ ha (Nat.le_trans (Nat.le_of_eq (Nat.add_right_comm i 1 d)) (Nat.le_of_lt hj)),
        Nat.add_assoc i 1 d, Nat.add_comm 1 d]
      exact field_or_high m h _ _ e (Nat.le_trans ha ha') hj he
    cases d <;> exact key

theorem flagBit_le (m : Msg) (f : Nat) : flagBit m f ≤ 1 := by
  unfold flagBit; split
  · exact Nat.zero_le 1
  · exact Nat.and_le_right

theorem flagBit_eq_field (m : Msg) (h : AllNib m) (p : Nat) (h1 : 1 ≤ p) (h2 : p ≤ 4 * m.length) :
    flagBit m p = field m p p := by
  obtain ⟨i, s, hs, rfl⟩ := pos_eq p h1
  unfold flagBit
  rw [if_neg (Nat.succ_ne_zero _), bitLocation_add i s hs]
  dsimp only   -- `(i, s).1`, `(i, s).2`
  rw [nib_high m h i s (by omega) hs, show (1 : Nat) = 2 ^ 1 - 1 from rfl, Nat.and_two_pow_sub_one_eq_mod,
    ← Nat.add_assoc]
  exact field_mod m _ _ 1 (Nat.succ_le_succ (Nat.le_add_right _ _)) h2

theorem nib_bit (m : Msg) (h : AllNib m) (i b : Nat) (hb : b < 4) (hi : i < m.length) :
    (nib m i >>> b) &&& 1 = field m (4 * i + 4 - b) (4 * i + 4 - b) := by
  -- with `e = 3 - b` the left side is what `flagBit` reads at position `4 * i + e + 1`
  obtain ⟨e, he⟩ : ∃ e, 3 = b + e := Nat.exists_eq_add_of_le (Nat.le_of_lt_succ hb)
  rw [Nat.sub_eq_of_eq_add (show 4 * i + 4 = 4 * i + e + 1 + b by omega),
    ← flagBit_eq_field m h _ (Nat.succ_le_succ (Nat.zero_le _)) (by omega), flagBit, if_neg (Nat.succ_ne_zero _),
    bitLocation_add i e (by omega), Nat.sub_eq_of_eq_add he]

theorem flagAndRangeValue_eq (m : Msg) (h : AllNib m) (flag sb eb : Nat) (hf : 1 ≤ flag) (hf2 : flag ≤ 4 * m.length)
    (h1 : 1 ≤ sb) (h2 : sb ≤ eb) (h3 : eb ≤ 4 * m.length) :
    flagAndRangeValue m flag sb eb = some (field m flag flag, field m sb eb) := by
  unfold flagAndRangeValue
  rw [rangeValue_eq_field m h sb eb h1 h2 h3, flagBit_eq_field m h flag hf hf2]
  rfl

theorem statusFlagAndRangeValue_eq (m : Msg) (h : AllNib m) (status flag sb eb : Nat)
    (hs : 1 ≤ status) (hs2 : status ≤ 4 * m.length) (hf : 1 ≤ flag) (hf2 : flag ≤ 4 * m.length)
    (h1 : 1 ≤ sb) (h2 : sb ≤ eb) (h3 : eb ≤ 4 * m.length) :
    statusFlagAndRangeValue m status flag sb eb
      = some (field m status status, field m flag flag, field m sb eb) := by
  unfold statusFlagAndRangeValue
  rw [flagAndRangeValue_eq m h flag sb eb hf hf2 h1 h2 h3, flagBit_eq_field m h status hs hs2]
  rfl

end Sq
