/-
Callsign slicing: the nibble arithmetic of `ais` yields the eight 6-bit fields of bits 41..88.
-/
import SqModel.Proofs.Bits
import SqModel.Model.Fields
import SqModel.Spec.Ident

namespace Sq
open Spec

/-- first character of a three-digit group: digits i, i+1 -/
theorem field_char_hi (m : Msg) (h : AllNib m) (i : Nat) (hi : i + 1 < m.length) :
    field m (4 * i + 1) (4 * i + 6) = (nib m i <<< 2) ||| (nib m (i + 1) >>> 2) := by
  rw [← field_nib m h i (by omega)]
  exact (field_or_high m h (4 * i + 1) (i + 1) 1 (by omega) hi (by decide)).symm

/-- second character of a three-digit group: digits i+1, i+2 -/
theorem field_char_lo (m : Msg) (h : AllNib m) (i : Nat) (hi : i + 2 < m.length) :
    field m (4 * i + 7) (4 * i + 12) = ((nib m (i + 1) &&& 3) <<< 4) ||| nib m (i + 2) := by
  rw [show (3 : Nat) = 0xF >>> 2 from rfl, nib_low m h (i + 1) 2 (by omega) (by decide)]
  exact (field_or_high m h (4 * i + 7) (i + 2) 3 (by omega) hi (by decide)).symm

theorem aisCodes_eq_chars48 (m : Msg) (h : AllNib m) (hl : 22 ≤ m.length) : aisCodes m = chars48 m := by
  unfold aisCodes
  rw [← field_char_hi m h 10 (by omega), ← field_char_lo m h 10 (by omega),
    ← field_char_hi m h 13 (by omega), ← field_char_lo m h 13 (by omega),
    ← field_char_hi m h 16 (by omega), ← field_char_lo m h 16 (by omega),
    ← field_char_hi m h 19 (by omega), ← field_char_lo m h 19 (by omega)]
  rfl

/-- the character set: `ia5` yields a blank exactly for the codes that are not characters -/
theorem ia5_table : ∀ c : Fin 64, Option.guard (· != ' ') (ia5 c.val) = ia5Spec c.val := by decide +kernel

theorem filter_ia5_eq (codes : List Nat) (h : ∀ c ∈ codes, c < 64) :
    ((codes.map ia5).filter fun c => c != ' ') = codes.filterMap ia5Spec := by
  rw [← List.filterMap_eq_filter, List.filterMap_map]
  refine filterMap_congr fun c hc => ?_
  rw [Function.comp_apply]
  exact ia5_table ⟨c, h c hc⟩

theorem chars48_lt (m : Msg) : ∀ c ∈ chars48 m, c < 64 := by
  intro c hc
  obtain ⟨i, _, rfl⟩ := List.mem_map.mp hc
  have := field_lt m (41 + 6 * i) (46 + 6 * i)
  rwa [show 46 + 6 * i + 1 - (41 + 6 * i) = 6 by omega] at this

theorem ais_eq_spec (m : Msg) (h : AllNib m) (hl : 22 ≤ m.length) : ais m = some (callsignSpec m) := by
  unfold ais callsignSpec
  rw [aisCodes_eq_chars48 m h hl, filter_ia5_eq _ (chars48_lt m)]

end Sq
