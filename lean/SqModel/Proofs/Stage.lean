/-
The Comm-B register cascade of `update_from_mode_s` in variables: every stage has one shape, so what a
stage leaves alone, when it fires and what "still undecided" means are proved once.
-/
import SqModel.Model.Plane
import SqModel.Proofs.Basic

namespace Sq

/-- one stage: while the register is undecided and the gate is open, a decoder that succeeds writes
    the row and decides -/
def stageG {α : Type} (dec : Option α) (gate : Plane → Bool) (write : α → Plane → Plane) (st : Plane × Bool) :
    Plane × Bool :=
  if st.2 && gate st.1 then
    match dec with
    | some v => (write v st.1, false)
    | none => st
  else st

theorem stage17_eq (m : Msg) (st : Plane × Bool) :
    stage17 m st = stageG (isBds17 m) (fun _ => true) (fun r p => { p with cap1 := r }) st := by
  unfold stage17 stageG; rw [Bool.and_true]; cases isBds17 m <;> rfl

theorem stage40_eq (m : Msg) (r : Bool) (st : Plane × Bool) : stage40 m r st = stageG (isBds40 m) (fun p => r || p.cap1.bds40) (fun v p =>
    { p with selectedAltitude := v.mcp.or v.fms, targetAltitudeSource := sourceMark v.source,
             barometricPressureSetting := v.baro }) st := by
  unfold stage40 stageG; cases isBds40 m <;> rfl

theorem stage50_eq (m : Msg) (r : Bool) (st : Plane × Bool) : stage50 m r st = stageG (isBds50 m) (fun p => r || p.cap1.bds50) (fun v p =>
    { p with rollAngle := v.roll, track := v.track, trackAngleRate := v.rate, grspeed := v.gs, trueAirspeed := v.tas,
             bds50Timestamp := some p.timestamp, trackSource := chSub5, trackTimestamp := some p.timestamp }) st := by
  unfold stage50 stageG; cases isBds50 m <;> rfl

theorem stage60_eq (m : Msg) (r : Bool) (st : Plane × Bool) : stage60 m r st = stageG (isBds60 m) (fun p => r || p.cap1.bds60) (fun v p =>
    { p with heading := v.heading, indicatedAirspeed := v.ias, machRaw := v.mach,
             vrate := (if v.baroRate.isSome then v.baroRate else v.ivv),
             vrateSource := (if v.baroRate.isSome then chSub6 else chSup1),
             headingSource := chSub6, headingTimestamp := some p.timestamp }) st := by
  unfold stage60 stageG; cases isBds60 m <;> rfl

theorem stage44_eq (m : Msg) (st : Plane × Bool) : stage44 m st = stageG (isBds44 m) (fun _ => true) (fun me p =>
    { p with temperature := me.temp, wind := (if me.wind.isSome then me.wind else p.wind),
             humidity := me.humidity, turbulence := me.turbulence, pressure := me.pressure }) st := by
  unfold stage44 stageG; rw [Bool.and_true]; cases isBds44 m <;> rfl

theorem stage45_eq (m : Msg) (st : Plane × Bool) :
    stage45 m st = (stageG (isBds45 m) (fun _ => true) (fun v p => { p with temperature := some v }) st).1 := by
  unfold stage45 stageG; rw [Bool.and_true, apply_ite Prod.fst]; cases isBds45 m <;> rfl

theorem stageCoded_eq (m : Msg) (p : Plane) :
    stageCoded m p = ({ p with ais := if bdsCode m = (2, 0) then ais m else p.ais,
                               threatEncounter := if bdsCode m = (3, 0) then threatEncounter m else p.threatEncounter },
                      decide (bdsCode m = (0, 0))) := by
  unfold stageCoded
  generalize bdsCode m = b
  by_cases h2 : b = (2, 0)
  · subst h2; rfl
  by_cases h3 : b = (3, 0)
  · subst h3; rfl
  simp only [if_neg h2, if_neg h3]

theorem stageCoded_frame {β : Type} (g : Plane → β) (ha : ∀ a p, g { p with ais := a } = g p)
    (ht : ∀ t p, g { p with threatEncounter := t } = g p) (m : Msg) (p : Plane) : g (stageCoded m p).1 = g p := by
  unfold stageCoded
  dsimp only   -- the `let`s and the first component of the pair: two conditional updates
  rw [apply_ite g, ht, ite_self, apply_ite g, ha, ite_self]

variable {α β : Type} {dec : Option α} {gate : Plane → Bool} {write : α → Plane → Plane} {st : Plane × Bool}

theorem stageG_cases (P : Plane × Bool → Prop)
    (fire : ∀ v, dec = some v → st.2 = true → gate st.1 = true → P (write v st.1, false))
    (idle : ¬ (st.2 = true ∧ gate st.1 = true ∧ dec.isSome = true) → P st) : P (stageG dec gate write st) := by
  unfold stageG
  cases dec with
  | none => exact ite_ind P (idle fun h => nomatch h.2.2) (idle fun h => nomatch h.2.2)
  | some v =>
    by_cases c : (st.2 && gate st.1) = true
    · rw [if_pos c]; exact fire v rfl (Bool.and_eq_true_iff.mp c).1 (Bool.and_eq_true_iff.mp c).2
    · rw [if_neg c]; exact idle fun h => c (Bool.and_eq_true_iff.mpr ⟨h.1, h.2.1⟩)

theorem stageG_frame (g : Plane → β) (hg : ∀ v p, g (write v p) = g p) : g (stageG dec gate write st).1 = g st.1 :=
  stageG_cases (fun x => g x.1 = g st.1) (fun v _ _ _ => hg v st.1) fun _ => rfl

theorem stageG_comm (f : Plane → Plane) (hgate : ∀ p, gate (f p) = gate p) (hw : ∀ v p, write v (f p) = f (write v p)) :
    stageG dec gate write (f st.1, st.2) = (f (stageG dec gate write st).1, (stageG dec gate write st).2) := by
  unfold stageG
  simp only [hgate]
  cases dec <;> split <;> simp only [hw]

/-- the invariant of the cascade started on row `p`: the register is still undecided exactly when `C`
    holds, and the row is then untouched -/
structure Reach (p : Plane) (C : Prop) (st : Plane × Bool) : Prop where
  row : C → st = (p, true)
  cond : st.2 = true → C

theorem Reach.coded (m : Msg) (p : Plane) : Reach p (bdsCode m = (0, 0)) (stageCoded m p) :=
  ⟨fun h => by rw [stageCoded_eq, h]; rfl, of_decide_eq_true⟩

theorem Reach.step {p : Plane} {C C' : Prop} (h : Reach p C st) (hc : C' ↔ C ∧ ¬ (gate p = true ∧ dec.isSome = true)) :
    Reach p C' (stageG dec gate write st) := by
  refine stageG_cases (Reach p C') (fun v e h2 hg => ?_) fun hn => ?_
  -- a stage that fires was reached undecided, so on the untouched row, and `C'` excludes that it fires there
  · have c := h.cond h2
    cases h.row c
    exact ⟨fun c' => absurd ⟨hg, e ▸ rfl⟩ (hc.mp c').2, nofun⟩
  · refine ⟨fun c' => h.row (hc.mp c').1, fun h2 => ?_⟩
    have c := h.cond h2
    cases h.row c
    exact hc.mpr ⟨c, fun a => hn ⟨h2, a⟩⟩

theorem Reach.fire {p : Plane} {C : Prop} (h : Reach p C st) (c : C) {v : α} (hg : gate p = true) :
    stageG (some v) gate write st = (write v p, false) :=
  h.row c ▸ if_pos hg

theorem Reach.changes {p : Plane} {C : Prop} (hr : Reach p C st) (g : Plane → β) (hst : g st.1 = g p) :
    g (stageG dec gate write st).1 ≠ g p → C ∧ gate p = true ∧ dec.isSome = true := by
  refine stageG_cases (fun x => g x.1 ≠ g p → _) (fun v e h2 hg _ => ?_) fun _ h => absurd hst h
  have c := hr.cond h2
  cases hr.row c
  exact ⟨c, hg, e ▸ rfl⟩

end Sq
