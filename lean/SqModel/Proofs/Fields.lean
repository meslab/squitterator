/-
The 13-bit AC / ID field (bits 20..32 of DF4/5/20/21) through `ma_code`, and the identity code.
-/
import SqModel.Proofs.Bits
import SqModel.Model.Fields
import SqModel.Spec.Squawk
import SqModel.Spec.Altitude

namespace Sq
open Spec

theorem fb_lt (f k : Nat) : fb f k < 2 := Nat.mod_lt _ (by decide)
theorem fb_def (f k : Nat) : f / 2 ^ k % 2 = fb f k := rfl

theorem shl_one_or (a y : Nat) (hy : y < 2) : a <<< 1 ||| y = 2 * a + y :=
  (Nat.two_pow_add_eq_or_of_lt (i := 1) hy a).symm

theorem shl_succ_or (a y s : Nat) (hy : y < 2) : a <<< (s + 1) ||| y <<< s = (2 * a + y) <<< s := by
  rw [Nat.shiftLeft_succ_inside, ← Nat.shiftLeft_or_distrib, ← shl_one_or a y hy]; rfl

/-- the working code as a function of the 13-bit field: the field without its bit 6 (M / X), then
    that bit, then once more bit 4 (Q / D1) -/
def maOfField (c : Nat) : Nat := 4 * ac12of13 c + 2 * mBit c + fb c 4

/-- `ma_code` ors fourteen single bits into place, highest first; taken in that order they are
    frame bits 20..25, 27..32, 26 and 28 -/
theorem maCode_eq_maOfField (m : Msg) (h : AllNib m) (hl : 8 ≤ m.length) :
    maCode m = maOfField (field m 20 32) := by
  have hl' : 32 ≤ 4 * m.length := Nat.mul_le_mul_left 4 hl
  -- side conditions on literal positions, so that `decide` discharges them
  have hn (i b : Nat) (hb : b < 4) (hi : i < 8) := nib_bit m h i b hb (Nat.lt_of_lt_of_le hi hl)
  have hs (sb eb A : Nat) (h1 : sb ≤ eb + 1) (h2 : eb + 1 ≤ 32) := field_snoc m sb eb A h1 (Nat.le_trans h2 hl')
  simp (disch := decide) only [maCode, Gen.maBitPositions, Gen.maTopShift, List.zipIdx, List.foldl_cons, List.foldl_nil,
    Nat.reduceSub, Nat.reduceAdd, Nat.reduceMul, hn, Nat.shiftLeft_zero]
  -- the fold starts from `0`; as `0 <<< 14` the first step has the shape of all the others
  rw [← Nat.zero_shiftLeft 14]
  simp (disch := first | exact field_bit_lt m _ | decide) only [shl_succ_or, shl_one_or, hs, Nat.reduceAdd]
  have e1 : field m 20 32 / 128 = field m 20 25 := field_div m 20 25 7 (by decide) hl'
  have e2 : field m 20 32 % 64 = field m 27 32 := field_mod m 20 26 6 (by decide) hl'
  have e3 : field m 26 26 = mBit (field m 20 32) := field_sub m 20 32 26 26 (by decide) (by decide) (by decide) hl'
  have e4 : field m 28 28 = fb (field m 20 32) 4 := field_sub m 20 32 28 28 (by decide) (by decide) (by decide) hl'
  rw [maOfField, ac12of13, e1, e2, ← e3, ← e4]
  omega

theorem fb_div (x n k : Nat) : fb (x / 2 ^ n) k = fb x (k + n) := by
  rw [fb, fb, Nat.div_div_eq_div_mul, ← Nat.pow_add, Nat.add_comm]

theorem fb_mod (x n k : Nat) (hk : k < n) : fb (x % 2 ^ n) k = fb x k := by
  -- `fb x k` is `(x.testBit k).toNat` (`Nat.toNat_testBit`), and core has the fact for `testBit`
  simpa only [fb, hk, decide_true, Bool.true_and, Nat.toNat_testBit] using
    congrArg Bool.toNat (Nat.testBit_mod_two_pow x n k)

theorem maOfField_div_four (c : Nat) : maOfField c / 4 = ac12of13 c := by
  have h : 2 * mBit c + fb c 4 < 4 := by have := fb_lt c 6; have := fb_lt c 4; unfold mBit; omega
  rw [maOfField, Nat.add_assoc, Nat.mul_add_div (by decide), Nat.div_eq_of_lt h, Nat.add_zero]

theorem fb_maOfField (c k : Nat) : fb (maOfField c) (k + 2) = fb (ac12of13 c) k := by
  rw [← fb_div, ← maOfField_div_four]

theorem fb_ac12of13_hi (c k : Nat) : fb (ac12of13 c) (k + 6) = fb c (k + 7) := by
  rw [← fb_div, ← fb_div, ac12of13, Nat.add_comm, Nat.add_mul_div_right _ _ (by decide : 0 < 2 ^ 6),
    Nat.div_eq_of_lt (Nat.mod_lt c (by decide)), Nat.zero_add]

theorem fb_ac12of13_lo (c k : Nat) (hk : k < 6) : fb (ac12of13 c) k = fb c k := by
  rw [← fb_mod _ 6 k hk, ← fb_mod c 6 k hk, ac12of13, Nat.mul_add_mod_of_lt (Nat.mod_lt c (by decide))]

/-- every octal digit reads the three bits the specification names -/
theorem squawkOfCode_maOfField (c : Nat) : squawkOfCode (maOfField c) = squawkSpec c := by
  -- a literal bit index `j` of the code is matched as `k + 2`, then as `k + 6` or as `k < 6`
  simp (disch := first | exact fb_lt _ _ | decide) only [squawkOfCode, squawkSpec, b13, Nat.shiftRight_eq_div_pow,
    Nat.and_one_is_mod, fb_def, fb_maOfField, fb_ac12of13_hi, fb_ac12of13_lo, Nat.reduceAdd, shl_succ_or, shl_one_or]
  omega

end Sq
