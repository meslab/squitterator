/-
C19 — Presentation options never change what is decoded; -U is decode-neutral.

Which aircraft are in the table and every decoded parameter are independent of the presentation
and logging options (-i, -o, -c, -u, -M, -D, -l), and -O affects only the distance column.  For
any history of DF4/5/11/17 frames whose carried values are all valid, callsign, altitude, squawk,
position, ground speed, track, vertical rate, category and surveillance status are identical with
and without -U.

In the model the decoding step `stepLine` takes a `DecodeCfg` only: -i and -o (`ViewCfg`), the refresh
interval -u and the logging options are not among its arguments, so the table cannot depend on them; what is
proved is the part that is not true by construction: -c and -U here and in `C19Table.lean`, the observer in
`C19Obs.lean`.
-/
import SqModel.Proofs.Formats
import SqModel.Proofs.RunView

namespace Sq.C19

/-- -c changes the counters and nothing else: table and sweep schedule are the same -/
theorem count_option_neutral (env : Env) (cfg : DecodeCfg) (b : Bool) (now : Int) (s : RState) (line : List Nat) :
    (stepLine env { cfg with countDf := b } now s line).table = (stepLine env cfg now s line).table
    ∧ (stepLine env { cfg with countDf := b } now s line).cleanupCount = (stepLine env cfg now s line).cleanupCount := by
  have h := stepLine_view (v := id) (env₁ := env) (env₂ := env) (cfg₁ := { cfg with countDf := b }) (cfg₂ := cfg)
    ⟨⟨Plane.timestamp, fun _ => rfl⟩, rfl, rfl, fun _ => rfl⟩ now line
    (fun _ _ _ _ _ _ => ⟨fun p₁ p₂ h => by cases (h : p₁ = p₂); rfl, rfl⟩) s s ⟨rfl, rfl⟩
  exact ⟨(tableView_id _).symm.trans (h.table.trans (tableView_id _)), h.count⟩

/-- the fields C19 lists for -U neutrality, together with the CPR slots, their receive times and the
    last-contact time that determine future positions -/
structure UView where
  ais : Option (List Char)
  altitude : Option Nat
  squawk : Option Nat
  lat : Rat
  lon : Rat
  distance : Option Rat
  positionTimestamp : Option Int
  cpr : Nat × Nat × Nat × Nat
  cprTime : Int × Int
  cprSurf : Bool × Bool
  grspeed : Option Nat
  track : Option Nat
  vrate : Option Int
  category : Nat × Nat
  surveillanceStatus : Char
  timestamp : Int
deriving DecidableEq

def uview (p : Plane) : UView :=
  { ais := p.ais, altitude := p.altitude, squawk := p.squawk, lat := p.lat, lon := p.lon, distance := p.distance,
    positionTimestamp := p.positionTimestamp, cpr := (p.cprLat0, p.cprLat1, p.cprLon0, p.cprLon1),
    cprTime := (p.cprTime0, p.cprTime1), cprSurf := (p.cprSurf0, p.cprSurf1), grspeed := p.grspeed, track := p.track, vrate := p.vrate,
    category := p.category, surveillanceStatus := p.surveillanceStatus, timestamp := p.timestamp }

/-- a row with the given view; what the view does not show is that of a new row -/
def ofView (v : UView) : Plane :=
  { Plane.new 0 with
    ais := v.ais, altitude := v.altitude, squawk := v.squawk, lat := v.lat, lon := v.lon, distance := v.distance,
    positionTimestamp := v.positionTimestamp, cprLat0 := v.cpr.1, cprLat1 := v.cpr.2.1, cprLon0 := v.cpr.2.2.1,
    cprLon1 := v.cpr.2.2.2, cprTime0 := v.cprTime.1, cprTime1 := v.cprTime.2, cprSurf0 := v.cprSurf.1,
    cprSurf1 := v.cprSurf.2, grspeed := v.grspeed, track := v.track, vrate := v.vrate, category := v.category,
    surveillanceStatus := v.surveillanceStatus, timestamp := v.timestamp }

/-- two updates that compute the listed fields from the listed fields alone, and in the same way, map rows
    that agree on them to rows that agree on them; for record updates
    `apply uview_congr h <;> intro <;> delta uview ofView <;> rfl` (unfolded first: `rfl` alone tries to match the
    rows under `uview` as wholes, once for every listed field) -/
theorem uview_congr {q₁ q₂ : Plane} (h : uview q₁ = uview q₂) {G₁ G₂ : Plane → Plane}
    (h₁ : ∀ q, uview (G₁ q) = uview (G₂ (ofView (uview q))))
    (h₂ : ∀ q, uview (G₂ q) = uview (G₂ (ofView (uview q)))) : uview (G₁ q₁) = uview (G₂ q₂) :=
  (h₁ q₁).trans ((congrArg (fun v => uview (G₂ (ofView v))) h).trans (h₂ q₂).symm)

theorem uview_congr_self {q₁ q₂ : Plane} (h : uview q₁ = uview q₂) {G : Plane → Plane}
    (hG : ∀ q, uview (G q) = uview (G (ofView (uview q)))) : uview (G q₁) = uview (G q₂) :=
  uview_congr h hG hG

theorem updatePosition_view (env : Env) {p q : Plane} (h : uview p = uview q) (tc f : Nat) :
    uview (p.updatePosition env tc f) = uview (q.updatePosition env tc f) := by
  have key : ∀ q : Plane, uview (q.updatePosition env tc f) = uview ((ofView (uview q)).updatePosition env tc f) := by
    intro q
    -- `posDecode` reads the CPR slots, their times and their surface marks only
    have e : (ofView (uview q)).posDecode tc f = q.posDecode tc f := rfl
    unfold Plane.updatePosition
    rw [e]
    cases q.posDecode tc f <;> cases env.dist <;> rfl
  exact uview_congr_self h key

theorem storeCpr_view (env : Env) {p q : Plane} (h : uview p = uview q) (tc : Nat) (c : Option (Nat × Nat × Nat)) :
    uview (p.storeCpr env tc c) = uview (q.storeCpr env tc c) := by
  cases c with
  | none => exact h
  | some c => exact updatePosition_view env (by apply uview_congr_self h; intro; delta uview ofView; rfl) ..

theorem extArm_view (env : Env) (m : Msg) (k₁ k₂ : Char) {q₁ q₂ : Plane} (h : uview q₁ = uview q₂) :
    uview (extArm env m k₁ q₁) = uview (extArm env m k₂ q₂) := by
  -- the class bodies are laid open as well: behind their names the `rfl`s below cost half as much again
  delta extArm Plane.updateExt14 Plane.updateExt19 Plane.updateExt2022 Plane.updateExt31
  cases tcClass (getMessageType m).1
  case surface | airborne =>
    exact storeCpr_view env (by apply uview_congr h <;> intro <;> delta uview ofView <;> rfl) ..
  all_goals apply uview_congr_self h; intro; delta uview ofView; rfl

/-- one step of -U neutrality: rows that agree on the listed fields still agree after any accepted
    DF4 (with an altitude), DF5, DF11 or DF17 frame, whichever of the two update paths each side
    takes and whatever -R says -/
theorem U_neutral_step (env : Env) (cfg₁ cfg₂ : DecodeCfg) (now : Int) (p₁ p₂ : Plane) (m : Msg) (df : Nat)
    (dl : DFRec) (hdf : getDownlinkFormat m = some df) (hdl : DFRec.fromMessage env m = some dl)
    (hicao : (getIcao m df).isSome) (hfmt : df = 4 ∨ df = 5 ∨ df = 11 ∨ df = 17)
    (hvalid : df = 4 → (altitude m 4).isSome) (h : uview p₁ = uview p₂) :
    uview (applyFrame env cfg₁ now p₁ dl m df) = uview (applyFrame env cfg₂ now p₂ dl m df) := by
  by_cases h17 : df = 17
  · subst h17
    obtain rfl := Option.some.inj ((fromMessage_df17 env m hdf).symm.trans hdl)
    rw [applyFrame_ext _ _ _ _ _ hdf, applyFrame_ext _ _ _ _ _ hdf, if_pos (Or.inr hicao), if_pos (Or.inr hicao)]
    exact extArm_view _ _ _ _ (by apply uview_congr h <;> intro <;> delta uview ofView <;> rfl)
  · have h3 : df = 4 ∨ df = 5 ∨ df = 11 := hfmt.imp_right (Or.imp_right (·.resolve_right h17))
    obtain rfl := Option.some.inj
      ((fromMessage_srt env m df hdf (by rcases h3 with rfl | rfl | rfl <;> decide)).symm.trans hdl)
    -- on the listed fields both paths do what `update_from_bcast` does
    have hs : ∀ cfg q, uview (applyFrame env cfg now q (.srt (Srt.fromMessage m)) m df)
        = uview (Plane.updateFromBcast { q with timestamp := now, lastDf := df } m df) := by
      intro cfg q
      unfold applyFrame
      split
      · rw [srt_fromMessage m df hdf]
        obtain ⟨i, hi⟩ := Option.isSome_iff_exists.mp hicao
        -- with the address and (DF4) the altitude known to be there, both sides evaluate
        unfold Plane.updateFromBcast squawk
        rw [hi]
        rcases h3 with rfl | rfl | rfl
        · obtain ⟨x, hx⟩ := Option.isSome_iff_exists.mp (hvalid rfl)
          rw [hx]
          rfl
        · rfl
        · rfl
      · rw [update_short env now q m df _ (by rcases h3 with rfl | rfl | rfl <;> decide)]
    refine (hs cfg₁ p₁).trans (.trans ?_ (hs cfg₂ p₂).symm)
    apply uview_congr_self h; intro; delta uview ofView; rfl

/-- the creating frame is the same function on both sides: `update_aircraft` always builds a new
    row with `Plane::from_downlink`, with or without -U -/
theorem creating_frame_same (env : Env) (cfg₁ cfg₂ : DecodeCfg) (now : Int) (t : Table) (dl : DFRec) (m : Msg)
    (df icao : Nat) (h : Table.lookup t icao = none) :
    Table.lookup (updateAircraft env cfg₁ now t dl m df icao) icao
      = Table.lookup (updateAircraft env cfg₂ now t dl m df icao) icao := by
  rw [lookup_updateAircraft_same, lookup_updateAircraft_same, h]

end Sq.C19
