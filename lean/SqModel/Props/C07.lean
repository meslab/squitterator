/-
C07 — Callsign and emitter category are decoded character-exactly.

An aircraft-identification squitter (DF17 TC 1-4) and a Comm-B reply decoded as BDS 2,0 yield
the callsign made of their eight 6-bit characters (1-26 -> A-Z, 48-57 -> 0-9) in order, with
every other character code omitted.  The squitter's type code and 3-bit category are recorded
as the emitter category, and type code 4 with category 1,2,3,4,5,7 is shown as wake class
L,S,M,H,J,R, anything else as blank.
-/
import SqModel.Proofs.Ident
import SqModel.Proofs.Formats
import SqModel.Model.Render

namespace Sq.C07
open Spec

/-- the decoder yields exactly the characters of the eight 6-bit groups of bits 41..88 that are
    letters or digits, in order — for every 112-bit digit vector -/
theorem ais_eq_callsignSpec (m : Msg) (h : AllNib m) (hl : 22 ≤ m.length) :
    ais m = some (callsignSpec m) := ais_eq_spec m h hl

/-- computed from bits 41..88 and nothing else -/
theorem ais_depends_only_on_field (m₁ m₂ : Msg) (h₁ : AllNib m₁) (h₂ : AllNib m₂)
    (l₁ : 22 ≤ m₁.length) (l₂ : 22 ≤ m₂.length) (hf : chars48 m₁ = chars48 m₂) : ais m₁ = ais m₂ := by
  rw [ais_eq_spec m₁ h₁ l₁, ais_eq_spec m₂ h₂ l₂]; unfold callsignSpec; rw [hf]

/-- the character set, all 64 codes: letters, digits, everything else omitted -/
theorem charset : ∀ c : Fin 64,
    ia5Spec c.val = (if 1 ≤ c.val ∧ c.val ≤ 26 then some (Char.ofNat (64 + c.val))
                     else if 48 ≤ c.val ∧ c.val ≤ 57 then some (Char.ofNat c.val) else none) := by
  intro c; rfl

/-- wake class letters, all 32 x 8 (type code, category) pairs -/
theorem wake_letter : ∀ tc : Fin 32, ∀ ca : Fin 8, wakeCategory (tc.val, ca.val) = wakeSpec tc.val ca.val := by
  decide +kernel

/-- (type code, category) are bits 33..37 and 38..40 -/
theorem messageType_eq_fields (m : Msg) (h : AllNib m) (hl : 10 ≤ m.length) :
    getMessageType m = (field m 33 37, field m 38 40) := by
  rw [getMessageType, ← field_nib m h 8 (by omega)]
  exact Prod.ext (field_or_high m h 33 9 0 (by decide) (by omega) (by decide)) (nib_low m h 9 1 (by omega) (by decide))

/-- an identification squitter sets callsign and category of an existing row on both update
    paths, under every option set -/
theorem row_callsign_after_TC1_4 (env : Env) (cfg : DecodeCfg) (now : Int) (p : Plane) (m : Msg)
    (hdf : getDownlinkFormat m = some 17) (htc : 1 ≤ (getMessageType m).1 ∧ (getMessageType m).1 ≤ 4)
    (hicao : (getIcao m 17).isSome) :
    (applyFrame env cfg now p (.ext (Ext.fromMessage env m)) m 17).ais = ais m
    ∧ (applyFrame env cfg now p (.ext (Ext.fromMessage env m)) m 17).category = getMessageType m := by
  rw [applyFrame_ext env cfg now p m hdf, if_pos (.inr hicao), extArm, tcClass_ident htc]
  exact ⟨rfl, rfl⟩

/-- the creating frame does the same -/
theorem creating_callsign_TC1_4 (env : Env) (now : Int) (m : Msg) (icao : Nat)
    (hdf : getDownlinkFormat m = some 17) (htc : 1 ≤ (getMessageType m).1 ∧ (getMessageType m).1 ≤ 4)
    (hicao : (getIcao m 17).isSome) :
    (Plane.fromDownlink env now (.ext (Ext.fromMessage env m)) icao).ais = ais m
    ∧ (Plane.fromDownlink env now (.ext (Ext.fromMessage env m)) icao).category = getMessageType m := by
  rw [fromDownlink_ext, amendExt_fromMessage env m hdf, if_pos hicao]
  simp only [extArm, tcClass_ident htc]
  exact ⟨rfl, rfl⟩

theorem ais_updateFromModeS (q : Plane) (m : Msg) (r : Bool) :
    (q.updateFromModeS m r).ais = if bdsCode m = (2, 0) then ais m else q.ais := by
  rw [registers_proj Plane.ais fun _ => rfl, stageCoded_eq]

/-- BDS 2,0 via DF20/DF21: under the capability gate of C10 the reply's callsign is shown, and
    without the gate the callsign is left alone -/
theorem bds20_callsign (env : Env) (now : Int) (p : Plane) (m : Msg) (df : Nat) (r : Bool)
    (hdf : df = 20 ∨ df = 21) :
    (p.update env now m df r).ais =
      if (r || decide (p.cap0 > 3)) ∧ bdsCode m = (2, 0) then ais m else p.ais := by
  have hne : ¬ (df = 17 ∨ df = 18) := by omega
  have hb : ¬ (df = 11 ∨ df = 17) := by omega
  have hg : (decide (df = 20) || decide (df = 21)) = true := by simpa using hdf
  have hcap : (Plane.updateFromBcast { p with timestamp := now, lastDf := df } m df).cap0 = p.cap0 := if_neg hb
  rw [Plane.update, if_neg hne, apply_ite Plane.ais, ais_updateFromModeS, commBGate, hg, Bool.and_true, hcap]
  cases r || decide (p.cap0 > 3)
  · rfl
  · simp only [true_and, if_true]; rfl

/-- the `W` column shows the wake letter of the recorded category, blank otherwise -/
theorem wake_cell (f : DisplayFlags) (now : Int) (p : Plane) :
    ((rowCells f now p).find? fun c => c.column == "W").map (·.text)
      = some (((wakeCategory p.category).map fun c => c.toString).getD " ") := by
  simp only [rowCells, List.cons_append, List.find?_cons, String.reduceBEq, Option.map_some]

-- non-vacuity: the repository's own test vector decodes to its callsign
example : ais (hexDigits ("8D406F7C250815F2CB4560C85DCA".toList.map Char.toNat)) = some "BAW224U".toList := by
  -- a literal is `String.ofList` of its characters: the rewrite spares the kernel the UTF-8 decoding of `toList`
  rw [String.toList_ofList, String.toList_ofList]; decide +kernel

end Sq.C07
