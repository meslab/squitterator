/-
C15 — Every refresh lists each aircraft once, ordered by the requested key.

Every refresh lists each tracked aircraft exactly once, and the rows are sorted by the last key
letter of -o (s squawk ascending, a/A altitude ascending/descending, v/V vertical rate, N/S
latitude, W/E longitude, d/D distance, c category) so that this key is monotone down the table;
with no recognised key the rows are in ascending address order.
-/
import SqModel.Model.Render
import SqModel.Proofs.Basic

namespace Sq.C15

/-- a comparison that is total and transitive: what `List.pairwise_mergeSort` asks for -/
structure GoodLe {α : Type} (le : α → α → Bool) : Prop where
  trans : ∀ a b c, le a b → le b c → le a c
  total : ∀ a b, le a b || le b a

theorem GoodLe.sorted {α : Type} {le : α → α → Bool} (g : GoodLe le) (l : List α) :
    (l.mergeSort le).Pairwise fun a b => le a b = true :=
  List.pairwise_mergeSort g.trans g.total l

theorem GoodLe.comap {α β : Type} {le : α → α → Bool} (g : GoodLe le) (f : β → α) :
    GoodLe fun a b => le (f a) (f b) :=
  ⟨fun a b c => g.trans (f a) (f b) (f c), fun a b => g.total (f a) (f b)⟩

theorem GoodLe.flip {α : Type} {le : α → α → Bool} (g : GoodLe le) : GoodLe fun a b => le b a :=
  ⟨fun a b c h₁ h₂ => g.trans c b a h₂ h₁, fun a b => g.total b a⟩

theorem GoodLe.key {α β : Type} [LE β] [DecidableLE β] [Std.IsLinearPreorder β] (k : α → β) :
    GoodLe fun a b => decide (k a ≤ k b) :=
  ⟨fun _ _ _ => by simpa using Std.le_trans, fun _ _ => by simpa using Std.le_total⟩

theorem optNatLe_eq (a b : Option Nat) : optNatLe a b = decide (a.elim 0 (· + 1) ≤ b.elim 0 (· + 1)) := by
  cases a <;> cases b <;> simp [optNatLe]

theorem GoodLe.optKey {α : Type} (k : α → Option Nat) : GoodLe fun a b => optNatLe (k a) (k b) := by
  simpa only [optNatLe_eq] using GoodLe.key fun a => (k a).elim 0 (· + 1)

theorem GoodLe.lex {α : Type} (k₁ k₂ : α → Nat) :
    GoodLe fun a b => decide (k₁ a < k₁ b ∨ (k₁ a = k₁ b ∧ k₂ a ≤ k₂ b)) := by
  simpa [List.cons_le_cons_iff, Nat.le_iff_lt_or_eq] using GoodLe.key fun a => [k₁ a, k₂ a]

/-- every comparison in the option is good: what `sortKey_good` carries through the `if`s of `sortKey` -/
def GoodKey (o : Option ((Plane → Plane → Bool) × Bool)) : Prop := ∀ x, o = some x → GoodLe x.1

theorem GoodKey.some {le : Plane → Plane → Bool} {rev : Bool} (g : GoodLe le) : GoodKey (some (le, rev)) :=
  fun _ h => Option.some.inj h ▸ g

theorem GoodKey.ite {c : Prop} [Decidable c] {a b : Option ((Plane → Plane → Bool) × Bool)}
    (ha : GoodKey a) (hb : GoodKey b) : GoodKey (if c then a else b) :=
  ite_ind GoodKey ha hb

theorem sortKey_good {c : Char} {le : Plane → Plane → Bool} {rev : Bool} (h : sortKey c = some (le, rev)) : GoodLe le := by
  refine (?_ : GoodKey (sortKey c)) _ h
  -- one `if` per key letter, in the order of `sortKey`: a A c C d D N S W E s V v
  unfold sortKey
  exact .ite (.some (.optKey Plane.altitude)) <| .ite (.some (.optKey Plane.altitude)) <|
    .ite (.some (.lex (fun p : Plane => p.category.1) fun p => p.category.2)) <|
    .ite (.some (GoodLe.key fun p : Plane => (p.category.1 <<< 1) ||| p.category.2).flip) <|
    .ite (.some (.key fun p : Plane => p.distance.getD 0)) <| .ite (.some (.key fun p : Plane => p.distance.getD 0)) <|
    .ite (.some (.key Plane.lat)) <| .ite (.some (GoodLe.key Plane.lat).flip) <|
    .ite (.some (.key Plane.lon)) <| .ite (.some (GoodLe.key Plane.lon).flip) <|
    .ite (.some (.optKey Plane.squawk)) <| .ite (.some (GoodLe.key fun p : Plane => p.vrate.getD 0).flip) <|
    .ite (.some (.key fun p : Plane => p.vrate.getD 0)) nofun

theorem applySortLetter_perm (rows : List (Nat × Plane)) (c : Char) : (applySortLetter rows c).Perm rows := by
  unfold applySortLetter
  split
  · split
    · exact (List.reverse_perm _).trans (List.mergeSort_perm _ _)
    · exact List.mergeSort_perm _ _
  · exact List.Perm.refl _

/-- each tracked aircraft is printed exactly once: the printed rows are a permutation of the table -/
theorem print_perm (orderBy : List Char) (t : Table) : (sortPrinted orderBy t).Perm t :=
  List.foldlRecOn orderBy applySortLetter (motive := (·.Perm t)) (List.mergeSort_perm _ _)
    fun rows h c _ => (applySortLetter_perm rows c).trans h

theorem print_keys (orderBy : List Char) (t : Table) (h : t.keys.Nodup) :
    ((sortPrinted orderBy t).map (·.1)).Perm t.keys ∧ ((sortPrinted orderBy t).map (·.1)).Nodup := by
  have hp := (print_perm orderBy t).map (·.1)
  exact ⟨hp, hp.nodup_iff.mpr h⟩

/-- after the sort for one recognised letter the key is monotone down the table (in the letter's
    direction: ascending for a, c, d, N, W, s, v; descending for A, D and by construction S, E, V, C) -/
theorem letter_sorted (rows : List (Nat × Plane)) (c : Char) (le : Plane → Plane → Bool) (rev : Bool)
    (h : sortKey c = some (le, rev)) :
    (applySortLetter rows c).Pairwise (fun a b => if rev then le b.2 a.2 = true else le a.2 b.2 = true) := by
  have hs := ((sortKey_good h).comap (·.2)).sorted rows
  rw [applySortLetter, h]
  cases rev
  · exact hs
  · exact List.pairwise_reverse.mpr hs

theorem unrecognised_noop (rows : List (Nat × Plane)) (cs : List Char) (h : ∀ c ∈ cs, sortKey c = none) :
    cs.foldl applySortLetter rows = rows :=
  List.foldlRecOn cs applySortLetter (motive := (· = rows)) rfl
    fun r hr c hc => by rw [hr, applySortLetter, h c hc]

/-- the printed rows are sorted by the last recognised key letter of -o -/
theorem sorted_by_last_key (pre post : List Char) (c : Char) (le : Plane → Plane → Bool) (rev : Bool) (t : Table)
    (h : sortKey c = some (le, rev)) (hpost : ∀ x ∈ post, sortKey x = none) :
    (sortPrinted (pre ++ c :: post) t).Pairwise (fun a b => if rev then le b.2 a.2 = true else le a.2 b.2 = true) := by
  unfold sortPrinted
  rw [List.foldl_append, List.foldl_cons, unrecognised_noop _ post hpost]
  exact letter_sorted _ c le rev h

/-- with no recognised key letter the rows are in ascending address order -/
theorem no_key_address_order (orderBy : List Char) (t : Table) (h : ∀ c ∈ orderBy, sortKey c = none) :
    (sortPrinted orderBy t).Pairwise (fun a b => a.1 ≤ b.1) := by
  rw [sortPrinted, unrecognised_noop _ orderBy h]
  exact ((GoodLe.key (·.1)).sorted t).imp of_decide_eq_true

-- the key letters of the property statement are recognised (and 'x' is not)
example : (sortKey 's').isSome ∧ (sortKey 'a').isSome ∧ (sortKey 'A').isSome ∧ (sortKey 'v').isSome
    ∧ (sortKey 'V').isSome ∧ (sortKey 'N').isSome ∧ (sortKey 'S').isSome ∧ (sortKey 'W').isSome
    ∧ (sortKey 'E').isSome ∧ (sortKey 'd').isSome ∧ (sortKey 'D').isSome ∧ (sortKey 'c').isSome
    ∧ (sortKey 'x').isNone := by decide +kernel

end Sq.C15
