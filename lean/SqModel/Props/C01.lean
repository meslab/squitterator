/-
C01 — No input line or option set can crash or wedge the decoder.

For every sequence of input lines (arbitrary bytes, any length) and every combination of decoding
and display options, processing never panics, aborts, overflows an arithmetic operation or fails
to terminate on a finite input; every well-formed line after a hostile one is still processed.

What is proved here, and what is not (level: partial proof + exhaustive panic search):
* the model's per-line step, segment fold and line splitter are total functions (accepted by Lean
  by structural recursion) - no input can make them diverge;
* the bit-extraction layer never traps when the positions it is given lie inside the vector
  (`rangeValueChk_ok`, `flagBitChk_ok`: the checked twins equal the unchecked model);
* every read of the message vector anywhere in the source (`Generated/Sites.lean`, regenerated from
  the source on every run) lies inside 112 bits, and every read in a function reachable with a
  56-bit frame lies inside 56 bits (`sites_in_range`, `short_sites_in_range`); with C02's
  length/DF gate this is why no index is out of range;
* the only `loop`/`while` is the TCP retry loop (C18);
* a hostile line changes nothing and the lines behind it are processed as if it were not there;
* no operation of the translated per-line pipeline can trap: not in the gate, on any line
  (`no_trap_in_gate`), not in one iteration of the reader loop under two invariants of the state
  (`no_trap_per_line`), and the invariants hold in every state the loop reaches in fewer than
  2^31 - 1 lines (`no_trap_in_any_reachable_state`); the `i32` DF counters are where a longer run does overflow.
Not proved here: the code outside the translated subset (rendering, option parsing, TCP glue, `main`),
which the check covers by the reviewed inventory of arithmetic sites and by running the real code
with overflow checks on; allocation failure; stack depth.
-/
import SqModel.Model.Checked
import SqModel.Generated.Sites
import SqModel.Props.C02
import SqModel.Proofs.Gate
import SqModel.Proofs.Safe
import SqModel.Proofs.TableInv

namespace Sq.C01

theorem nibChk_ok (m : Msg) (i : Nat) (h : i < m.length) : nibChk m i = .ok (nib m i) := by
  unfold nibChk nib
  simp [List.getD, h]

/-- the digit that holds bit `p` of a vector long enough for it (the bound of `Safe.flag_bit_safe`, as the checked twins
    spell the digit) -/
theorem digit_lt {m : Msg} {p : Nat} (h1 : 1 ≤ p) (h : p ≤ 4 * m.length) : (p - 1) >>> 2 < m.length :=
  Nat.shiftRight_eq_div_pow .. ▸ (Safe.flag_bit_safe h (Nat.ne_of_gt h1)).2.1

/-- a field extraction whose positions lie inside the vector never traps, and yields what the
    (unchecked) model yields -/
theorem rangeValueChk_ok (m : Msg) (sb eb : Nat) (h1 : 1 ≤ sb) (h2 : 1 ≤ eb) (h3 : sb ≤ 4 * m.length)
    (h4 : eb ≤ 4 * m.length) : rangeValueChk m sb eb = .ok (rangeValue m sb eb) := by
  unfold rangeValueChk rangeValue bitLocationChk bitLocation
  simp only [Nat.ne_of_gt h1, Nat.ne_of_gt h2, if_false]
  have heb := digit_lt h2 h4
  split
  · rfl
  · rw [nibChk_ok m _ (digit_lt h1 h3)]
    simp only
    generalize hd : (eb - 1) >>> 2 - (sb - 1) >>> 2 = d
    match d, hd with
    | 0, _ => rfl
    | 1, _ => simp only [nibChk_ok m _ heb]
    | n + 2, _ => simp only [Nat.not_lt.2 (Nat.le_of_lt heb), if_false, nibChk_ok m _ heb]

theorem flagBitChk_ok (m : Msg) (flag : Nat) (h : flag ≤ 4 * m.length) : flagBitChk m flag = .ok (flagBit m flag) := by
  unfold flagBitChk flagBit bitLocation
  split
  · rfl
  · next hf => rw [nibChk_ok m _ (digit_lt (Nat.pos_of_ne_zero hf) h)]

/-- ... and outside the vector it does trap (the checked twin is not vacuous) -/
example : rangeValueChk [1, 2, 3] 1 16 = .error .index := by rfl
example : rangeValueChk [1, 2, 3] 0 4 = .error .underflow := by rfl

/-- functions that can be reached with a 56-bit frame (everything the short formats use) and the
    extraction helpers themselves -/
def shortFns : List String :=
  ["get_downlink_format", "crc56", "get_capability", "get_icao", "parity_ok", "reminder", "ma_code",
   "range_value", "flag_and_range_value", "status_flag_and_range_value", "goodflags"]

/-- functions only reached with a 112-bit frame (DF17/18: `Ext`, `update_from_ext`; DF20/21: `Mds`,
    `update_from_mode_s`; `crc112`; `me_code` through `altitude(_, 17)`) -/
def longFns : List String :=
  ["crc112", "get_message_type", "me_code", "ais", "threat_encounter", "surveillance_status", "cpr",
   "vertical_rate", "altitude_delta", "altitude_gnss", "version", "ground_movement", "ground_track",
   "track_and_groundspeed", "heading", "bds", "is_bds_1_7", "is_bds_4_0", "is_bds_4_4", "is_bds_4_5",
   "is_bds_5_0", "is_bds_6_0", "mcp_selected_altitude", "fms_selected_altitude",
   "barometric_pressure_setting", "target_altitude_source", "roll_angle_5_0", "track_angle_5_0",
   "track_angle_rate_5_0", "ground_speed_5_0", "true_airspeed_5_0", "magnetic_heading_6_0",
   "indicated_airspeed_6_0", "mach_number_6_0", "barometric_altitude_rate_6_0",
   "internal_vertical_velocity_6_0", "temperature_4_4", "wind_speed", "wind_direction", "turbulence_4_4",
   "humidity_4_4", "pressure_4_4", "temperature_4_5", "update_from_mode_s"]

/-- every read of the message vector in the source (`Gen.sites`) is in a function of one of the two lists -/
theorem sites_classified : ∀ s ∈ Gen.sites, s.2.1 ∈ shortFns ∨ s.2.1 ∈ longFns := by decide +kernel

/-- every read lies inside a 112-bit frame -/
theorem sites_in_range : ∀ s ∈ Gen.sites,
    (s.2.2.1 = "bits" → 1 ≤ s.2.2.2.1 ∧ s.2.2.2.1 ≤ s.2.2.2.2 ∧ s.2.2.2.2 ≤ 112)
    ∧ (s.2.2.1 = "nibble" → s.2.2.2.2 < 28) := by decide +kernel

/-- every field read spans at most 32 bits, so that the `u32` arithmetic of `range_value` (whose `<<` silently drops bits
    shifted past bit 31) loses nothing: this is the hypothesis of `Bridge.range_value_eq`, under which the code's wrapping
    computation (regenerated from the source into `Generated/TransBits.lean`) *is* the model's unbounded one -/
theorem sites_fit_u32 : ∀ s ∈ Gen.fieldSites, 1 ≤ s.2.2.1 ∧ s.2.2.2 < s.2.2.1 + 32 := by decide +kernel

/-- a read in a function that can see a 56-bit frame lies inside 56 bits -/
theorem short_sites_in_range : ∀ s ∈ Gen.sites, s.2.1 ∈ shortFns →
    (s.2.2.1 = "bits" → s.2.2.2.2 ≤ 56) ∧ (s.2.2.1 = "nibble" → s.2.2.2.2 < 14) := by decide +kernel

/-- dynamically computed indices occur only inside the extraction helpers, `reminder` and `ma_code` -/
theorem dynamic_sites : ∀ s ∈ Gen.sites, s.2.2.1 = "dynamic" →
    s.2.1 ∈ ["range_value", "flag_and_range_value", "status_flag_and_range_value", "goodflags", "reminder", "ma_code"] := by
  decide +kernel

/-- `ma_code`'s table reads digits 4..7 only -/
theorem ma_code_positions : ∀ p ∈ Gen.maBitPositions, p.1 < 14 ∧ p.2 < 4 := by decide +kernel

/-- the only unbounded loop in the program is the TCP retry loop -/
theorem loops_inventory : Gen.loops.map (·.2.1) = ["connect_and_read_tcp"] := by decide +kernel

/-- what the gate hands to the decoders has the length its format needs -/
theorem accepted_length (line : List Nat) (m : Msg) (h : getMessage line = some m) :
    (Spec.df m < 16 ∧ m.length = 14) ∨ (16 ≤ Spec.df m ∧ m.length = 28) :=
  (getMessage_gated line m h).1.len

/-- every line after a hostile one is still processed: the state after `pre ++ [bad] ++ post` is the
    fold of the step over all of them, and a line that is not a frame is a no-op in it -/
theorem later_lines_still_processed (env : Env) (cfg : DecodeCfg) (now : Int) (t : Table)
    (pre post : List (List Nat)) (bad : List Nat) (hbad : getMessage bad = none) :
    runSegment env cfg now t (pre ++ [bad] ++ post)
      = post.foldl (stepLine env cfg now) (runSegment env cfg now t pre) := by
  unfold runSegment
  simp only [List.foldl_append, List.foldl_cons, List.foldl_nil]
  rw [C02.nonframe_noop env cfg now _ bad hbad]

/- The arithmetic clause: no operation of the per-line pipeline can panic.  `Generated/TransSafe.lean` states, for every
   function of that pipeline that the translator regenerates from the source, the conditions under which none of its
   operations traps (unsigned subtraction, overflowing `+`/`*`, over-wide shifts, indexing, `expect`, division by zero, and
   the safety of the calls it makes; the docstring of `T.safe_names` carries the regenerated count), and `Proofs/Safe.lean`
   proves them bottom-up.  One kind of call carries no obligation in the generated propositions: from outside the bit and
   frame layer, a call to `ais`, `ma_code`, `graytobin`, `get_downlink_format`, `get_icao` or `reminder`, which the translator
   renders by the hand model's name (`extract/rs2safe.py`).  Their own propositions are proved (`Safe.ais_safe`,
   `Safe.ma_code_safe`, `Safe.graytobin_safe`, `Safe.get_downlink_format_safe`, `Safe.get_icao_safe`, `Safe.reminder_safe`)
   under hypotheses on the length of the frame that an accepted frame meets (`Safe.Accepted`), but they are not part of what
   `no_trap_per_line` states. -/

/-- **one iteration of the reader loop cannot trap**, whatever the line, the options and the table - provided the rows carry
    altitudes the decoder can have produced (`TableOK`: below 100 000 ft, which `altitude()` guarantees for every value it
    returns, `Safe.altitude_lt`) and no DF has been counted 2^31 - 1 times (`CountOK`; the `i32` counters are the one
    place where a long enough run does overflow, named in DESIGN 5.1 as not covered) -/
theorem no_trap_per_line (now : Int) (te : TEnv) (line : List Char) (a : T.Args) (t : T.Planes) (c : T.AppCounters)
    (hT : Safe.TableOK t) (hC : Safe.CountOK c) : T.read_lines_step.safe now te line a t c :=
  Safe.read_lines_step_safe now te line a t c hT hC

/-- the gate alone needs no hypothesis at all: `get_message` cannot trap on any line -/
theorem no_trap_in_gate (line : List Char) : T.get_message.safe line := Safe.get_message_safe line

/-- the hypotheses are satisfiable: the state every run starts from -/
example : Safe.TableOK ⟨[]⟩ ∧ Safe.CountOK ⟨[], 0, 0⟩ := ⟨fun _ h => (nomatch h), fun _ h => (nomatch h), by decide⟩

/-- **no reachable state of the reader loop lets the next line trap.**  From a fresh start (or any table of admissible rows
    left by an earlier `read_lines` call, with fresh counters), after any run of fewer than 2^31 - 1 lines of arbitrary
    characters, each processed at its own time, under any options: the translated loop body meets every trap-freedom obligation on any next
    line.  The two invariants of `no_trap_per_line` are discharged here: they hold initially and every step keeps them
    (`Safe.stepLine_ok`, proved on the model and carried over by the simulation `read_lines_step_sim`). -/
theorem no_trap_in_any_reachable_state (te : TEnv) (a : T.Args) (ts : Int) (r : Safe.Run)
    (hlen : r.length + 1 < 2147483648)
    (s0 : RState) (h0 : Safe.MTableOK s0.table) (hc0 : Safe.MCountOK 0 s0) (now : Int) (next : List Char) :
    T.read_lines_step.safe now te next a
      (Safe.codeRun te a (Bridge.tableToT s0.table, Bridge.countersToT s0 ts) r).1
      (Safe.codeRun te a (Bridge.tableToT s0.table, Bridge.countersToT s0 ts) r).2 :=
  Safe.no_trap_run te a ts r hlen s0 h0 hc0 now next

/-- its premises are met by the state the program starts in -/
example : Safe.MTableOK ({} : RState).table ∧ Safe.MCountOK 0 ({} : RState) := Safe.fresh_ok

end Sq.C01
