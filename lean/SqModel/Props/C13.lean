/-
C13 — Unusable lines affect nothing but themselves.

The table produced from an input stream equals the table produced from the subsequence of its
accepted lines: lines that are not accepted - empty, over-long, non-hex, of wrong length, or
containing bytes that are not valid UTF-8 - have no effect on how any other line is processed
and never end processing early.

The model processes bytes.  That the reader hands every line of the byte stream to the loop -
`BufRead::split(b'\n')` and `String::from_utf8_lossy` - is modelled by `splitLines` / `hexDigits`
and validated by the correspondence check on hostile streams (file and TCP sources).
-/
import SqModel.Proofs.Reader
import SqModel.Proofs.Gate

namespace Sq.C13

/-- a line that is not accepted changes nothing at all -/
theorem not_accepted_noop (env : Env) (cfg : DecodeCfg) (now : Int) (s : RState) (line : List Nat)
    (h : isAccepted cfg line = false) : stepLine env cfg now s line = s :=
  stepLine_not_isAccepted env cfg now s line (Bool.eq_false_iff.mp h)

/-- the whole reader state (table, counters, sweep schedule) after a segment is that of the
    subsequence of accepted lines -/
theorem run_filter_accepted (env : Env) (cfg : DecodeCfg) (now : Int) (t : Table) (lines : List (List Nat)) :
    runSegment env cfg now t lines = runSegment env cfg now t (lines.filter (isAccepted cfg)) :=
  runSegment_filter env cfg now t lines

/-- junk lines inserted at arbitrary positions change nothing -/
theorem junk_anywhere (env : Env) (cfg : DecodeCfg) (now : Int) (t : Table) (pre junk post : List (List Nat))
    (hj : ∀ l ∈ junk, isAccepted cfg l = false) :
    runSegment env cfg now t (pre ++ junk ++ post) = runSegment env cfg now t (pre ++ post) :=
  junk_insertion env cfg now t pre junk post hj

/-- splitting the byte stream: any bytes up to a newline form one line, and splitting resumes
    behind it - no byte value ends the stream -/
theorem split_never_stops (a b : List Nat) (ha : 10 ∉ a) : splitLines (a ++ 10 :: b) = a :: splitLines b :=
  splitLines_cons_line a b ha

/-- a final piece without newline is a line too -/
theorem split_last (a : List Nat) (ha : 10 ∉ a) (hne : a ≠ []) : splitLines a = [a] :=
  splitLines_last a ha hne

-- non-vacuity: lines of the kinds the property lists are not accepted
example : isAccepted {} [] = false := by decide +kernel
example : isAccepted {} [0, 0x80, 0xFF, 0x0D] = false := by decide +kernel
-- `String.toList_ofList`: a literal is `String.ofList` of its characters, and the rewrite spares the kernel the UTF-8 decoding of `toList`
example : isAccepted {} ("8D40621D58C382D690C8AC2863".toList.map Char.toNat) = false := by
  rw [String.toList_ofList]; decide +kernel
example : isAccepted {} ("8D40621D58C382D690C8AC2863A7".toList.map Char.toNat) = true := by
  rw [String.toList_ofList, isAccepted, acceptedFrame, getMessage_eq_spec]; decide +kernel

end Sq.C13
