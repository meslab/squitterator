/-
C02 — A line is a frame iff its hex digits form a 56/112-bit frame of matching DF.

A line is taken as a Mode S frame exactly when, after discarding every character that is not a
hexadecimal digit, 14 or 28 digits remain, or 26 or 40 digits remain (the first 12 being a
receiver timestamp that is dropped), and the frame length agrees with its downlink format;
squitters must in addition pass the parity check of C04.  The result of processing depends only
on that digit sequence, and every line that is not taken as a frame leaves the table untouched.
-/
import SqModel.Proofs.Gate
import SqModel.Proofs.Table

namespace Sq.C02
open Spec

/-- `getMessage line = some m` iff the digits of the line form a frame of matching length and
    DF that passes the squitter parity gate -/
theorem getMessage_iff (line : List Nat) (m : Msg) :
    getMessage line = some m ↔
      frameOf (hexDigits line) = some m ∧ Spec.lengthMatchesDF m = true ∧ Spec.parityOK m = true := by
  rw [getMessage_eq_spec]
  exact acceptDigits_eq_some_iff _ m

/-- a byte that is not an ASCII hex digit never changes the digit sequence, wherever it is put -/
theorem hexDigits_insert (a b : List Nat) (c : Nat) (hc : hexVal c = none) :
    hexDigits (a ++ [c] ++ b) = hexDigits (a ++ b) := by
  unfold hexDigits
  simp [List.filterMap_append, hc]

def toUpperByte (b : Nat) : Nat := if 97 ≤ b ∧ b ≤ 122 then b - 32 else b
theorem hexVal_upper (b : Nat) : hexVal (toUpperByte b) = hexVal b := by
  unfold toUpperByte
  split
  · -- the 26 lower-case letters one by one: `a`–`f` have the value of `A`–`F`, `g`–`z` and `G`–`Z` have none
    rename_i h
    obtain ⟨k, rfl⟩ := Nat.exists_eq_add_of_le h.1
    have : ∀ k : Fin 26, hexVal (97 + k.val - 32) = hexVal (97 + k.val) := by decide
    exact this ⟨k, by omega⟩
  · rfl
/-- letter case never changes the digit sequence -/
theorem hexDigits_upper (l : List Nat) : hexDigits (l.map toUpperByte) = hexDigits l := by
  unfold hexDigits
  rw [List.filterMap_map]
  congr 1
  funext b
  exact hexVal_upper b

/-- the result of processing a line depends on its digit sequence only -/
theorem decoration_invariance (env : Env) (cfg : DecodeCfg) (now : Int) (s : RState)
    (l₁ l₂ : List Nat) (h : hexDigits l₁ = hexDigits l₂) :
    stepLine env cfg now s l₁ = stepLine env cfg now s l₂ := by
  unfold stepLine acceptedFrame getMessage; rw [h]

/-- a line that is not taken as a frame leaves table, counters and sweep schedule untouched -/
theorem nonframe_noop (env : Env) (cfg : DecodeCfg) (now : Int) (s : RState) (line : List Nat)
    (h : getMessage line = none) : stepLine env cfg now s line = s := by
  apply stepLine_not_accepted
  unfold acceptedFrame; rw [h]

-- the hypotheses are satisfiable and the gate is not trivial
-- (evaluated on the specification's side of `getMessage_eq_spec`: the model's `reminder` loop is slow in the kernel)
-- `String.toList_ofList`: a literal is `String.ofList` of its characters, and the rewrite spares the kernel the UTF-8 decoding of `toList`
example : getMessage ("8D40621D58C382D690C8AC2863A7".toList.map Char.toNat) ≠ none := by
  rw [String.toList_ofList, getMessage_eq_spec]; decide +kernel
example : getMessage ("*8d40621d58c382d690c8ac2863a7;\r".toList.map Char.toNat)
    = getMessage ("8D40621D58C382D690C8AC2863A7".toList.map Char.toNat) := by
  rw [String.toList_ofList, String.toList_ofList]
  exact congrArg messageOfDigits (by decide +kernel)
example : getMessage ("@009736E2736B02E197B00179C3;".toList.map Char.toNat) ≠ none := by
  rw [String.toList_ofList, getMessage_eq_spec]; decide +kernel
example : getMessage ("8D40621D58C382".toList.map Char.toNat) = none := by   -- 14 digits announcing DF17
  rw [String.toList_ofList]; decide +kernel
example : getMessage ("02E197B00179C302E197B00179C3".toList.map Char.toNat) = none := by   -- 28 digits announcing DF0
  rw [String.toList_ofList]; decide +kernel
example : getMessage ("8D40621D58C382D690C8AC2863A".toList.map Char.toNat) = none := by
  rw [String.toList_ofList]; decide +kernel

end Sq.C02
