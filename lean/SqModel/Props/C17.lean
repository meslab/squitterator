/-
C17 — Registration country follows the ICAO address allocation for all 2^24 addresses.

The country code shown for an aircraft is determined solely by its 24-bit address according to
the ICAO Annex 10 allocation blocks: an address inside a block shows that block's code, no
address belongs to two blocks, and an address outside every block shows '??'.
-/
import SqModel.Proofs.Country
import SqModel.Proofs.Frame

namespace Sq.C17
open Spec

/-- no address belongs to two blocks -/
theorem blocks_disjoint (a : Nat) (b₁ b₂ : Block) (h₁ : b₁ ∈ annex10) (h₂ : b₂ ∈ annex10)
    (i₁ : inBlock a b₁ = true) (i₂ : inBlock a b₂ = true) : b₁ = b₂ :=
  unique_block annex10_separated h₁ h₂ i₁ i₂

theorem inside_block (a : Nat) (b : Block) (hb : b ∈ annex10) (hin : inBlock a b = true) :
    countryCode a = b.2.2 := by
  unfold countryCode
  rw [nestedMatch_eq_lookup a _ shifts_ok]
  exact lookup_of_mem a _ b ((mem_blocks_iff b).mpr hb) hin fun x hx ix =>
    unique_block annex10_separated ((mem_blocks_iff x).mp hx) hb ix hin

theorem outside_blocks (a : Nat) (h : ∀ b ∈ annex10, inBlock a b = false) : countryCode a = unallocated := by
  unfold countryCode
  rw [nestedMatch_eq_lookup a _ shifts_ok, ← default_is_unallocated]
  exact lookup_of_not_mem a _ (fun b hb => h b ((mem_blocks_iff b).mp hb))

/-- the property in one statement, for all addresses -/
theorem country_by_allocation (a : Nat) :
    (∃ b ∈ annex10, inBlock a b = true ∧ countryCode a = b.2.2)
    ∨ ((∀ b ∈ annex10, inBlock a b = false) ∧ countryCode a = unallocated) := by
  by_cases h : ∃ b ∈ annex10, inBlock a b = true
  · obtain ⟨b, hb, hin⟩ := h
    exact .inl ⟨b, hb, hin, inside_block a b hb hin⟩
  · have h' : ∀ b ∈ annex10, inBlock a b = false := fun b hb => Bool.eq_false_iff.mpr fun hi => h ⟨b, hb, hi⟩
    exact .inr ⟨h', outside_blocks a h'⟩

/-- the row's country is that of its address: set at creation ... -/
theorem reg_at_creation (env : Env) (now : Int) (dl : DFRec) (icao : Nat) :
    (Plane.fromDownlink env now dl icao).reg = codeString (countryCode icao) :=
  (of_erase (eraseDl_updateFromDownlink ..) fun _ => rfl).trans rfl

/-- ... and never assigned again, on either update path -/
theorem reg_preserved (env : Env) (cfg : DecodeCfg) (now : Int) (p : Plane) (dl : DFRec) (m : Msg) (df : Nat) :
    (applyFrame env cfg now p dl m df).reg = p.reg :=
  applyFrame_preserves Plane.reg (fun _ => rfl) (fun _ => rfl) (fun _ _ _ => rfl) ..

-- the examples of the property statement: A00000-AFFFFF US, 4CA000-4CAFFF IE, 3C0000-3FFFFF DE
example : (0xA00000, 4, 21843) ∈ annex10 ∧ (0x4CA000, 12, 18757) ∈ annex10 ∧ (0x3C0000, 6, 17477) ∈ annex10 := by
  decide +kernel
example : countryCode 0xA12345 = 21843 ∧ countryCode 0x4CA86E = 18757 ∧ countryCode 0x3C6444 = 17477
    ∧ countryCode 0x000001 = unallocated := by decide +kernel

end Sq.C17
