/-
C10, the converse clause for BDS 6,0 and 4,0 ("a reply with every status bit set and every value field
non-zero and plausible is decoded as that register").
-/
import SqModel.Props.C10

namespace Sq.C10
open Spec

/-- a 6,0 register with every status bit set, every (sign + magnitude) field non-zero, Mach <= 1.0 and vertical
    rates within +-6000 ft/min is recognised as 6,0: for every heading, including the one whose field is the
    sign bit alone (180 degrees) -/
theorem isBds60_complete (m : Msg) (L : Long m) (v : Valid60 m)
    (nz : mb m 2 12 ≠ 0 ∧ mb m 14 23 ≠ 0 ∧ mb m 25 34 ≠ 0 ∧ mb m 36 45 ≠ 0 ∧ mb m 47 56 ≠ 0)
    (hmach : mb m 25 34 ≤ 250)
    (hbaro : mb m 37 45 ≠ 0 → -6000 ≤ 32 * twos (mb m 36 36) (mb m 37 45) 9 ∧ 32 * twos (mb m 36 36) (mb m 37 45) 9 ≤ 6000)
    (hivv : mb m 48 56 ≠ 0 → -6000 ≤ 32 * twos (mb m 47 47) (mb m 48 56) 9 ∧ 32 * twos (mb m 47 47) (mb m 48 56) 9 ≤ 6000) :
    (isBds60 m).isSome = true :=
  Option.isSome_of_eq_some ((isBds60_iff L _).mpr
    ⟨⟨v, nz⟩, hmach, rate32_shown _ _ (mb_01 m 36) ▸ hbaro, rate32_shown _ _ (mb_01 m 47) ▸ hivv, rfl⟩)

/-- a 4,0 register with its three status bits set, the reserved bits zero and the three value fields non-zero
    is recognised as 4,0 (the value filters - altitude <= 65530 ft, 800..1210 mb - hold for every field value) -/
theorem isBds40_complete (m : Msg) (L : Long m) (v : Valid40 m)
    (nz : mb m 2 13 ≠ 0 ∧ mb m 15 26 ≠ 0 ∧ mb m 28 39 ≠ 0) : (isBds40 m).isSome = true :=
  Option.isSome_of_eq_some ((isBds40_iff L _).mpr ⟨⟨v, nz⟩, rfl⟩)

/-- once gating allows it and nothing earlier in the fixed precedence (1,7 - 4,0 - 5,0) matches, a valid 6,0
    register is decoded: the row shows exactly the register's heading, IAS, Mach and vertical rate (the
    barometric rate when present, otherwise the inertial one) -/
theorem register_complete_60 (p : Plane) (m : Msg) (r : Bool) (t : Bds60)
    (hcode : bdsCode m = (0, 0)) (h17 : isBds17 m = none)
    (h40 : ¬ ((r = true ∨ p.cap1.bds40 = true) ∧ (isBds40 m).isSome))
    (h50 : ¬ ((r = true ∨ p.cap1.bds50 = true) ∧ (isBds50 m).isSome))
    (hgate : r = true ∨ p.cap1.bds60 = true) (h60 : isBds60 m = some t) :
    view60 (p.updateFromModeS m r) = (t.heading, t.ias, t.mach, if t.baroRate.isSome then t.baroRate else t.ivv) := by
  unfold Plane.updateFromModeS
  rw [stage60_eq, h60, (reach60 m p r).fire ⟨⟨⟨hcode, h17⟩, h40⟩, h50⟩ (Bool.or_eq_true_iff.mpr hgate)]
  rfl

/-- once gating allows it (and the reply is not a 1,7 report), a valid 4,0 register is decoded -/
theorem register_complete_40 (p : Plane) (m : Msg) (r : Bool) (v : Bds40)
    (hcode : bdsCode m = (0, 0)) (h17 : isBds17 m = none)
    (hgate : r = true ∨ p.cap1.bds40 = true) (h40 : isBds40 m = some v) :
    view40 (p.updateFromModeS m r) = (v.mcp.or v.fms, v.baro, sourceMark v.source) := by
  unfold Plane.updateFromModeS
  rw [stage40_eq, h40, (reach40 m p).fire ⟨hcode, h17⟩ (Bool.or_eq_true_iff.mpr hgate)]
  rfl

-- non-vacuity: a 6,0 register whose heading field is the sign bit alone (180 degrees), Mach 0.78, -640 ft/min
-- (`String.toList_ofList`: see the examples of C10.lean)
example : (isBds60 (hexDigits ("A0001838C009F52D20540A000000".toList.map Char.toNat))).isSome = true := by
  rw [String.toList_ofList]; decide +kernel
example : ((isBds60 (hexDigits ("A0001838C009F52D20540A000000".toList.map Char.toNat))).bind (·.heading)) = some 180 := by
  rw [String.toList_ofList]; decide +kernel

end Sq.C10
