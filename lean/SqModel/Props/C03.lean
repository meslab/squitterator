/-
C03 — Every frame is attributed to exactly the address it encodes; rows are isolated.

Each accepted frame of DF 0/4/5/11/16/17/18/20/21 is attributed to exactly one 24-bit address:
the AA field (bits 9-32) for DF11/17/18 and, for DF0/4/5/16/20/21, the last 24 bits XOR the Mode S
CRC-24 (generator 0x1FFF409) of all preceding bits.  A frame whose address is zero is dropped;
any other creates the row of its address if absent and can modify that row only - no other
aircraft's row changes and the table never holds two rows for one address.
-/
import SqModel.Proofs.Expiry
import SqModel.Proofs.Gate

namespace Sq.C03
open Spec

/-- the 32-bit register division of `crc56` is the CRC-24 of the first 32 bits -/
theorem crc56_is_crc24 (m : Msg) (h : AllNib m) (hl : 8 ≤ m.length) :
    crc56 m = (crc24 (bitsOf m 1 32)).toNat := crc56_eq_spec m h hl

/-- the three-register division of `crc112` is the CRC-24 of the first 88 bits -/
theorem crc112_is_crc24 (m : Msg) (h : AllNib m) (hl : 22 ≤ m.length) :
    crc112 m = (crc24 (bitsOf m 1 88)).toNat := crc112_eq_spec m h hl

/-- what an accepted line hands to the decoder: a gated digit vector and its DF -/
theorem accepted_gated (line : List Nat) (m : Msg) (h : getMessage line = some m) :
    Gated m ∧ getDownlinkFormat m = some (Spec.df m) :=
  getMessage_gated line m h

/-- address of the formats with address/parity overlay: last 24 bits xor CRC-24 of the rest -/
theorem address_AP (m : Msg) (g : Gated m)
    (hf : Spec.df m = 0 ∨ Spec.df m = 4 ∨ Spec.df m = 5 ∨ Spec.df m = 16 ∨ Spec.df m = 20 ∨ Spec.df m = 21) :
    getIcao m (Spec.df m)
      = (some (field m (4 * m.length - 23) (4 * m.length)
                ^^^ (crc24 (bitsOf m 1 (4 * m.length - 24))).toNat)).filter (· ≠ 0) := by
  unfold getIcao
  rw [if_pos hf, bne_zero_eq]
  -- the arm computes what `syndromeOf` does, written out a second time in the source
  exact congrArg (Option.filter fun f => decide (f ≠ 0)) (syndromeOf_eq m g)

/-- address of the squitter formats: the AA field -/
theorem address_AA (m : Msg) (g : Gated m) (hf : Spec.df m = 11 ∨ Spec.df m = 17 ∨ Spec.df m = 18) :
    getIcao m (Spec.df m) = (some (field m 9 32)).filter (· ≠ 0) := by
  have := g.length
  unfold getIcao
  rw [if_neg (by omega), bne_zero_eq, rangeValue_eq_field m g.nib 9 32 (by decide) (by decide) (by omega)]

/-- together: on the nine formats the address the decoder attributes a frame to is the specification's `addressOf` -/
theorem getIcao_eq (m : Msg) (g : Gated m)
    (hf : Spec.df m ∈ [0, 4, 5, 11, 16, 17, 18, 20, 21]) :
    getIcao m (Spec.df m) = Spec.addressOf m := by
  have hcls : ∀ d ∈ [0, 4, 5, 11, 16, 17, 18, 20, 21],
      ¬ (d = 11 ∨ d = 17 ∨ d = 18) → (d = 0 ∨ d = 4 ∨ d = 5 ∨ d = 16 ∨ d = 20 ∨ d = 21) := by decide
  simp only [Spec.addressOf]
  by_cases hAA : Spec.df m = 11 ∨ Spec.df m = 17 ∨ Spec.df m = 18
  · rw [if_pos hAA]; exact address_AA m g hAA
  · rw [if_neg hAA, if_pos (hcls _ hf hAA)]; exact address_AP m g (hcls _ hf hAA)

/-- a frame whose address is zero (or that has none) changes nothing -/
theorem zero_dropped (env : Env) (cfg : DecodeCfg) (now : Int) (s : RState) (line : List Nat) (m : Msg)
    (df : Nat) (hm : getMessage line = some m) (hdf : getDownlinkFormat m = some df)
    (h0 : getIcao m df = none) : stepLine env cfg now s line = s := by
  apply stepLine_not_accepted
  unfold acceptedFrame
  simp [hm, hdf, h0]

/-- no other aircraft's row changes: it is byte-for-byte the same, or it was removed by the
    expiry sweep (C12) because it had not been heard for `delete_after` seconds -/
theorem row_isolation (env : Env) (cfg : DecodeCfg) (now : Int) (s : RState) (line : List Nat)
    (m : Msg) (df icao b : Nat) (h : acceptedFrame cfg line = some (m, df, icao)) (hb : b ≠ icao)
    (hnd : s.table.keys.Nodup) :
    Table.lookup (stepLine env cfg now s line).table b = Table.lookup s.table b
    ∨ (Table.lookup (stepLine env cfg now s line).table b = none ∧ s.cleanupCount > 10 ∧
        ∃ p, Table.lookup s.table b = some p ∧ ¬ numSeconds now p.timestamp < cfg.deleteAfter) := by
  obtain ⟨dl, _, hl⟩ := lookup_stepLine_accepted env cfg now s line m df icao h hnd
  rw [hl, lookup_updateAircraft_other env cfg now s.table dl m df icao b hb]
  cases Table.lookup s.table b with
  | none => exact .inl rfl
  | some p =>
    by_cases hk : s.cleanupCount > 10 → numSeconds now p.timestamp < cfg.deleteAfter
    · exact .inl (Option.filter_some_pos (decide_eq_true hk))
    · have ⟨hc, hexp⟩ := Classical.not_imp.mp hk
      exact .inr ⟨Option.filter_some_neg (decide_eq_false hk), hc, p, rfl, hexp⟩

/-- an accepted frame creates the row of its address if absent (for `delete_after > 0`; with
    `delete_after <= 0` the sweep of the same step may remove it again, as C12 prescribes) -/
theorem creates_if_absent (env : Env) (cfg : DecodeCfg) (now : Int) (s : RState) (line : List Nat)
    (m : Msg) (df icao : Nat) (h : acceptedFrame cfg line = some (m, df, icao))
    (hpos : 0 < cfg.deleteAfter) (hnd : s.table.keys.Nodup)
    (habs : Table.lookup s.table icao = none) :
    ∃ dl, DFRec.fromMessage env m = some dl ∧
      Table.lookup (stepLine env cfg now s line).table icao = some (Plane.fromDownlink env now dl icao) := by
  obtain ⟨dl, hdl, hq⟩ := own_row_after env cfg now s line m df icao h hnd hpos
  rw [habs] at hq
  exact ⟨dl, hdl, hq⟩

/-- the table never holds two rows for one address: invariant of every segment from any table
    that has it (the empty table does) -/
theorem keys_nodup (env : Env) (cfg : DecodeCfg) (now : Int) (t : Table) (lines : List (List Nat))
    (h : t.keys.Nodup) : (runSegment env cfg now t lines).table.keys.Nodup :=
  List.foldlRecOn lines _ (motive := fun s => s.table.keys.Nodup) h
    fun s hs l _ => nodup_stepLine env cfg now s l hs

example : (Table.keys ([] : Table)).Nodup := by simp [Table.keys]

-- the recorded frames of the repository's own test: address by AP overlay and by AA field
-- `String.toList_ofList`: a literal is `String.ofList` of its characters, and the rewrite spares the kernel the UTF-8 decoding of `toList`
example : getIcao (hexDigits ("28001A1B1F0706".toList.map Char.toNat)) 5 = some 5023854 := by
  rw [String.toList_ofList]; decide +kernel
example : getIcao (hexDigits ("8D4CA86E58B15398DA1B2834CF37".toList.map Char.toNat)) 17 = some 5023854 := by
  rw [String.toList_ofList]; decide +kernel

end Sq.C03
