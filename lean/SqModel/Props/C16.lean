/-
C16 — DF filter admits only the listed formats; DF counters are exact.

With -f, only accepted frames whose downlink format is in the list are applied; every other frame
leaves table and counters untouched.  With -c, the counter line shows, in ascending DF order, for
each DF exactly the number of accepted frames with non-zero address of that DF that passed the
filter so far.
-/
import SqModel.Proofs.Reader

namespace Sq.C16

theorem passesFilter_iff {cfg : DecodeCfg} {L : List Nat} (hf : cfg.filter = some L) (df : Nat) :
    passesFilter cfg df = true ↔ df ∈ L := by
  simp [passesFilter, hf]

/-- a frame whose DF is not in the `-f` list changes nothing -/
theorem filtered_noop (env : Env) (cfg : DecodeCfg) (now : Int) (s : RState) (line : List Nat) (m : Msg)
    (df : Nat) (L : List Nat) (hf : cfg.filter = some L) (hm : getMessage line = some m)
    (hdf : getDownlinkFormat m = some df) (hnot : df ∉ L) : stepLine env cfg now s line = s := by
  apply stepLine_not_accepted
  simp only [acceptedFrame, hm, hdf, if_neg (mt (passesFilter_iff hf df).mp hnot)]
  cases getIcao m df <;> rfl

/-- a frame whose DF is in the list passes -/
theorem listed_passes (cfg : DecodeCfg) (df : Nat) (L : List Nat) (hf : cfg.filter = some L) (h : df ∈ L) :
    passesFilter cfg df = true :=
  (passesFilter_iff hf df).mpr h

/-- the counters after a segment: with -c, the count of each DF among the accepted lines
    (frame, non-zero address, passed the filter); without -c, nothing -/
theorem counts_exact (env : Env) (cfg : DecodeCfg) (now : Int) (t : Table) (lines : List (List Nat)) (k : Nat) :
    cntLookup (runSegment env cfg now t lines).dfCount k
      = if cfg.countDf then ((lines.filterMap (acceptedDf cfg)).count k : Int) else 0 := by
  rw [dfCount_runSegment]
  split
  · exact cntLookup_countsOf _ k
  · rfl

/-- the counter map lists each DF once, in ascending order -/
theorem counts_sorted (env : Env) (cfg : DecodeCfg) (now : Int) (t : Table) (lines : List (List Nat)) :
    KeysAsc (runSegment env cfg now t lines).dfCount := by
  rw [dfCount_runSegment]
  split
  · exact (countsOf_asc _).keysAsc
  · trivial

example : countsOf [17, 4, 17, 11, 4, 17] = [(4, 2), (11, 1), (17, 3)] := by decide +kernel

end Sq.C16
