/-
C10 — Comm-B data are shown only when valid, advertised and correctly decoded.

A parameter derived from the MB field of a DF20/21 reply changes only if a transponder capability
of 4 or more has been recorded for that aircraft or -R is given - and for BDS 4,0/5,0/6,0 only if a
BDS 1,7 report from that aircraft advertised the register or -R is given - and only if the MB field
has all status bits of that register set and its reserved bits zero; the new value then equals the
ICAO Doc 9871 decoding of the corresponding bit field (integers truncated).  Conversely, once gating
allows it, a reply whose MB field is such a register with every status bit set, every value field
non-zero and within plausible range is decoded as that register unless it also satisfies the rules
of a register earlier in the fixed precedence 1,7 > 4,0 > 5,0 > 6,0.
-/
import SqModel.Proofs.Ehs
import SqModel.Proofs.Frame

namespace Sq.C10
open Spec

/-- outer gate: without a recorded capability of 4 or more and without -R, a DF20/21 reply changes
    nothing but altitude / squawk and the book-keeping -/
theorem commb_gate (env : Env) (cfg : DecodeCfg) (now : Int) (p : Plane) (m : Msg) (df : Nat) (dl : DFRec)
    (hdf : df = 20 ∨ df = 21) (hgate : cfg.relaxed = false ∧ p.cap0 ≤ 3) :
    applyFrame env cfg now p dl m df
      = Plane.updateFromBcast { p with timestamp := now, lastDf := df } m df := by
  unfold applyFrame
  rw [if_neg (by omega), Plane.update_eq, Plane.extStep_ne (by omega)]
  -- a DF20/21 reply leaves the recorded capability alone, so the gate sees `p.cap0`
  have hcap : (Plane.updateFromBcast { p with timestamp := now, lastDf := df } m df).cap0 = p.cap0 :=
    if_neg (by omega)
  refine if_neg ?_
  rw [commBGate, hgate.1, hcap, decide_eq_false (Nat.not_lt.mpr hgate.2)]
  exact Bool.false_ne_true

/-- the registers recognised by their BDS code (1,0 / 2,0 / 3,0) have bit 33 clear, so they can never
    coincide with a 4,0 / 5,0 / 6,0 register whose first status bit is set -/
theorem coded_disjoint (m : Msg) (L : Long m) (hs : mb m 1 1 = 1) : bdsCode m = (0, 0) := by
  -- MB bit 1 is the top bit of digit 8, and the codes 1, 2, 3 want that digit below 8
  have hf : (nib m 8 >>> 3) &&& 1 = 1 := (nib_bit m L.nib 8 3 (by decide) L.digit).trans hs
  have : ∀ x : Fin 16, (x.val >>> 3) &&& 1 = 1 → ¬ x.val &&& 0xF = 1 ∧ ¬ x.val &&& 0xF = 2 ∧ ¬ x.val &&& 0xF = 3 := by decide
  obtain ⟨n1, n2, n3⟩ := this ⟨nib m 8, nib_lt m L.nib 8⟩ hf
  unfold bdsCode
  rw [if_neg fun h => n1 h.1, if_neg fun h => n2 h.1, if_neg fun h => n3 h.1]

/-- what a capability report records: MB bits 7, 9, 13, 16, 24 for registers 2,0 / 4,0 / 4,4 / 5,0 / 6,0,
    accepted only with MB bit 7 set and MB bits 29-56 zero -/
theorem bds17_flags (m : Msg) (L : Long m) (c : Capability) (h : isBds17 m = some c) :
    mb m 7 7 = 1 ∧ mb m 29 56 = 0 ∧ c.flags = mb m 1 24 ∧ c.bds20 = true
    ∧ (c.bds40 = true ↔ mb m 9 9 = 1) ∧ (c.bds44 = true ↔ mb m 13 13 = 1)
    ∧ (c.bds50 = true ↔ mb m 16 16 = 1) ∧ (c.bds60 = true ↔ mb m 24 24 = 1) := by
  unfold isBds17 at h
  rw [far L 39 61 88 (by decide), rangeValue_eq_field m L.nib 33 56 (by decide) (by decide) (by rw [L.len]; decide)] at h
  simp only at h   -- the `match` on the pair that was read
  split at h
  · cases h
  · rename_i hc
    cases h
    -- `flags` is MB bits 1-24, so MB bit k is bit 24 - k of it
    have bit (k : Nat) (hk : 1 ≤ k ∧ k ≤ k ∧ k ≤ 24 ∧ 24 ≤ 56) :
        ((mb m 1 24 >>> (24 - k)) &&& 1 == 1) = true ↔ mb m k k = 1 := by
      rw [mb_sub L hk, Nat.add_sub_cancel_left, Nat.shiftRight_eq_div_pow, Nat.and_one_is_mod, beq_iff_eq, Nat.pow_one]
    exact ⟨Decidable.not_not.mp fun n => hc (.inl n), Decidable.not_not.mp fun n => hc (.inr n), rfl, rfl,
      bit 9 (by decide), bit 13 (by decide), bit 16 (by decide), bit 24 (by decide)⟩

/-- a reply is taken as 4,0 only with its three status bits set and its reserved bits zero; the
    values are then the Doc 9871 decoding: selected altitude 16 ft x field, pressure 800 + field/10 mb (truncated) -/
theorem bds40_valid_sound (m : Msg) (L : Long m) (v : Bds40) (h : isBds40 m = some v) :
    Valid40 m ∧ v.mcp = some (16 * mb m 2 13) ∧ v.fms = some (16 * mb m 15 26)
    ∧ v.baro = some (mb m 28 39 / 10 + 800) := by
  obtain ⟨⟨hv, -⟩, rfl⟩ := (isBds40_iff L v).mp h
  exact ⟨hv, rfl, rfl, rfl⟩

/-- floor of a non-negative quotient as computed by the code -/
theorem shown_of_div (x : Nat) (k d : Nat) (hd : 0 < d) : ShownFloor ((x * k / d : Nat) : Int) (k * (x : Int)) d := by
  unfold ShownFloor
  rw [Int.natCast_ediv, Int.natCast_mul, Int.mul_comm (x : Int), Int.mul_add, Int.mul_one]
  exact ⟨Int.mul_ediv_self_le (Int.ne_of_gt (Int.natCast_pos.2 hd)), Int.lt_mul_ediv_self_add (Int.natCast_pos.2 hd)⟩

theorem shown_shift {v num den : Int} (h : ShownFloor v num den) (c : Int) : ShownFloor (v + c) (num + den * c) den := by
  unfold ShownFloor at *
  rw [Int.mul_add, Int.add_right_comm v c 1, Int.mul_add den (v + 1)]
  exact ⟨Int.add_le_add_right h.1 _, Int.add_lt_add_right h.2 _⟩

/-- why the code's signed scalings are the floors of the Doc 9871 values: a set sign bit takes `2 ^ n` off the
    magnitude, and the scale `k / d` makes that `c` whole denominators -/
theorem shown_twos {q k d : Int} {v : Nat} (h : ShownFloor q (k * v) d) (n : Nat) (c : Int)
    (hc : k * ((2 ^ n : Nat) : Int) = d * c) : ShownFloor (q - c) (k * twos 1 v n) d := by
  have e : k * twos 1 v n = k * v + d * -c := by
    rw [Int.mul_neg, ← hc, ← Int.sub_eq_add_neg, ← Int.mul_sub]; rfl
  exact e ▸ shown_shift h (-c)

theorem roll_shown (v sgn : Nat) (hs : sgn = 0 ∨ sgn = 1) : ShownFloor (roll50 sgn v) (45 * twos sgn v 9) 256 := by
  have h : ShownFloor (Int.tdiv ((v : Int) * 45) 256) (45 * v) 256 := by
    rw [Int.tdiv_eq_ediv_of_nonneg (Int.mul_nonneg (Int.natCast_nonneg v) (by decide))]
    exact shown_of_div v 45 256 (by decide)
  rcases hs with rfl | rfl
  · exact h
  · exact shown_twos h 9 90 (by decide)

/-- the plausibility bound of `is_bds_5_0` on the shown roll angle, in terms of the exact one -/
theorem roll_plausible {v sgn : Nat} (hs : sgn = 0 ∨ sgn = 1)
    (h : -50 * 256 ≤ 45 * twos sgn v 9 ∧ 45 * twos sgn v 9 < 51 * 256) : -50 ≤ roll50 sgn v ∧ roll50 sgn v ≤ 50 := by
  obtain ⟨lo, hi⟩ := roll_shown v sgn hs
  have l : (256 : Int) * -50 < 256 * (roll50 sgn v + 1) := Int.lt_of_le_of_lt h.1 hi
  have u : (256 : Int) * roll50 sgn v < 256 * (50 + 1) := Int.lt_of_le_of_lt lo h.2
  exact ⟨Int.le_of_lt_add_one (Int.lt_of_mul_lt_mul_left l (by decide)), Int.le_of_lt_add_one (Int.lt_of_mul_lt_mul_left u (by decide))⟩

theorem track_shown (v sgn : Nat) (hs : sgn = 0 ∨ sgn = 1) :
    ShownFloor (angle sgn v : Nat) (90 * twos sgn v 10 + (if sgn = 1 then 360 * 512 else 0)) 512 := by
  have h := shown_of_div v 90 512 (by decide)
  rcases hs with rfl | rfl
  · exact (Int.add_zero _).symm ▸ h
  -- a negative track: the two's complement, then a full turn
  · have t := shown_shift (shown_twos h 10 180 (by decide)) 360
    rwa [Int.sub_eq_add_neg, Int.add_assoc] at t

theorem rate_shown (v sgn : Nat) (hs : sgn = 0 ∨ sgn = 1) :
    ShownFloor (turn50 sgn v) (8 * twos sgn v 9) 256 := by
  have h := shown_of_div v 8 256 (by decide)
  rw [Nat.mul_div_mul_right _ 32 (by decide : 0 < 8)] at h
  rcases hs with rfl | rfl
  · exact h
  · exact shown_twos h 9 16 (by decide)

theorem rate32_shown (v sgn : Nat) (hs : sgn = 0 ∨ sgn = 1) : vrate60 sgn v = 32 * twos sgn v 9 := by
  rcases hs with rfl | rfl
  · rfl
  · exact (Int.mul_sub 32 v 512).symm

/-- a reply is taken as 5,0 only with all five status bits set, and then every shown value is the
    Doc 9871 decoding of its field: roll = floor(45/256 x two's complement), true track in [0,360) =
    floor(90/512 x two's complement) (+360 if negative), track angle rate = floor(8/256 x two's
    complement), ground speed and true airspeed = 2 kt x field -/
theorem bds50_valid_sound (m : Msg) (L : Long m) (t : Bds50) (h : isBds50 m = some t) :
    Valid50 m
    ∧ (∃ r, t.roll = some r ∧ ShownFloor r (45 * twos (mb m 2 2) (mb m 3 11) 9) 256)
    ∧ (∃ a, t.track = some a ∧
        ShownFloor (a : Int) (90 * twos (mb m 13 13) (mb m 14 23) 10 + (if mb m 13 13 = 1 then 360 * 512 else 0)) 512)
    ∧ (∃ q, t.rate = some q ∧ ShownFloor q (8 * twos (mb m 36 36) (mb m 37 45) 9) 256)
    ∧ t.gs = some (2 * mb m 25 34) ∧ t.tas = some (2 * mb m 47 56) := by
  obtain ⟨⟨hv, -⟩, -, -, -, -, rfl⟩ := (isBds50_iff L t).mp h
  exact ⟨hv, ⟨_, rfl, roll_shown _ _ (mb_01 m 2)⟩, ⟨_, rfl, track_shown _ _ (mb_01 m 13)⟩,
    ⟨_, rfl, rate_shown _ _ (mb_01 m 36)⟩, rfl, rfl⟩

/-- a reply is taken as 6,0 only with all five status bits set, and then: magnetic heading in [0,360)
    = floor(90/512 x two's complement) (+360 if negative), IAS = field (kt), Mach = field x 0.004
    (carried as the raw field), either vertical rate, where its value field is not zero, = 32 ft/min x two's complement
    of that field (which of the two the row shows is `stage60`'s choice) -/
theorem bds60_valid_sound (m : Msg) (L : Long m) (b : Bds60) (h : isBds60 m = some b) :
    Valid60 m
    ∧ (∃ a, b.heading = some a ∧
        ShownFloor (a : Int) (90 * twos (mb m 2 2) (mb m 3 12) 10 + (if mb m 2 2 = 1 then 360 * 512 else 0)) 512)
    ∧ b.ias = some (mb m 14 23) ∧ b.mach = some (mb m 25 34) ∧ mb m 25 34 ≤ 250
    ∧ (∀ x, b.baroRate = some x → x = 32 * twos (mb m 36 36) (mb m 37 45) 9 ∧ -6000 ≤ x ∧ x ≤ 6000)
    ∧ (∀ x, b.ivv = some x → x = 32 * twos (mb m 47 47) (mb m 48 56) 9 ∧ -6000 ≤ x ∧ x ≤ 6000) := by
  obtain ⟨⟨hv, -⟩, hm, hb, hi, rfl⟩ := (isBds60_iff L b).mp h
  exact ⟨hv, ⟨_, rfl, track_shown _ _ (mb_01 m 2)⟩, rfl, rfl, hm,
    forall_ite_some fun z => ⟨rate32_shown _ _ (mb_01 m 36), hb z⟩, forall_ite_some fun z => ⟨rate32_shown _ _ (mb_01 m 47), hi z⟩⟩

/-- the fields only BDS 4,0 / 5,0 / 6,0 write inside the Comm-B decode -/
def view40 (p : Plane) := (p.selectedAltitude, p.barometricPressureSetting, p.targetAltitudeSource)
def view50 (p : Plane) := (p.rollAngle, p.track, p.trackAngleRate, p.grspeed, p.trueAirspeed)
def view60 (p : Plane) := (p.heading, p.indicatedAirspeed, p.machRaw, p.vrate)

theorem early_stages_keep {β : Type} (g : Plane → β) (ha : ∀ a p, g { p with ais := a } = g p)
    (ht : ∀ t p, g { p with threatEncounter := t } = g p) (hc : ∀ c p, g { p with cap1 := c } = g p) (m : Msg) (p : Plane) :
    g (stage17 m (stageCoded m p)).1 = g p := by
  rw [stage17_eq, stageG_frame g hc, stageCoded_frame g ha ht]

theorem reach40 (m : Msg) (p : Plane) :
    Reach p (bdsCode m = (0, 0) ∧ isBds17 m = none) (stage17 m (stageCoded m p)) := by
  -- `simp` proves the condition for the next stage: the gate of 1,7 is `true`, and `isSome` of the decoder turns into `= none`
  rw [stage17_eq]; exact (Reach.coded m p).step (by simp)

theorem reach50 (m : Msg) (p : Plane) (r : Bool) :
    Reach p ((bdsCode m = (0, 0) ∧ isBds17 m = none) ∧ ¬ ((r = true ∨ p.cap1.bds40 = true) ∧ (isBds40 m).isSome))
      (stage40 m r (stage17 m (stageCoded m p))) := by
  rw [stage40_eq]; exact (reach40 m p).step (by simp)

theorem reach60 (m : Msg) (p : Plane) (r : Bool) :
    Reach p (((bdsCode m = (0, 0) ∧ isBds17 m = none) ∧ ¬ ((r = true ∨ p.cap1.bds40 = true) ∧ (isBds40 m).isSome))
        ∧ ¬ ((r = true ∨ p.cap1.bds50 = true) ∧ (isBds50 m).isSome))
      (stage50 m r (stage40 m r (stage17 m (stageCoded m p)))) := by
  rw [stage50_eq]; exact (reach50 m p r).step (by simp)

/-- 4,0 fields change only if the register was advertised (or -R), the reply is a valid 4,0 register,
    and neither a coded register nor a 1,7 report took the reply -/
theorem register_gate_40 (p : Plane) (m : Msg) (r : Bool) (h : view40 (p.updateFromModeS m r) ≠ view40 p) :
    (r = true ∨ p.cap1.bds40 = true) ∧ (isBds40 m).isSome ∧ bdsCode m = (0, 0) ∧ isBds17 m = none := by
  unfold Plane.updateFromModeS at h
  rw [stage45_eq, stageG_frame view40, stage44_eq, stageG_frame view40, stage60_eq, stageG_frame view40, stage50_eq,
    stageG_frame view40, stage40_eq] at h
  · obtain ⟨hc, hg, hs⟩ :=
      (reach40 m p).changes view40 (early_stages_keep view40 (fun _ _ => rfl) (fun _ _ => rfl) (fun _ _ => rfl) m p) h
    exact ⟨Bool.or_eq_true_iff.mp hg, hs, hc⟩
  all_goals intros; rfl

/-- 5,0 fields change only if advertised (or -R), valid 5,0, and nothing earlier in the precedence
    (coded registers, 1,7, 4,0) took the reply -/
theorem register_gate_50 (p : Plane) (m : Msg) (r : Bool) (h : view50 (p.updateFromModeS m r) ≠ view50 p) :
    (r = true ∨ p.cap1.bds50 = true) ∧ (isBds50 m).isSome ∧ bdsCode m = (0, 0) ∧ isBds17 m = none
    ∧ ¬ ((r = true ∨ p.cap1.bds40 = true) ∧ (isBds40 m).isSome) := by
  -- no other stage writes a 5,0 field: the side goals of `stageG_frame`, closed by `rfl` at the end
  have hst : view50 (stage40 m r (stage17 m (stageCoded m p))).1 = view50 p := by
    rw [stage40_eq, stageG_frame view50, early_stages_keep view50] <;> intros <;> rfl
  unfold Plane.updateFromModeS at h
  rw [stage45_eq, stageG_frame view50, stage44_eq, stageG_frame view50, stage60_eq, stageG_frame view50, stage50_eq] at h
  · obtain ⟨hc, hg, hs⟩ := (reach50 m p r).changes view50 hst h
    exact ⟨Bool.or_eq_true_iff.mp hg, hs, hc.1.1, hc.1.2, hc.2⟩
  all_goals intros; rfl

/-- once gating allows it and nothing earlier in the precedence matches, a valid 5,0 register is
    decoded: the row shows exactly the register's values -/
theorem register_complete_50 (p : Plane) (m : Msg) (r : Bool) (t : Bds50)
    (hcode : bdsCode m = (0, 0)) (h17 : isBds17 m = none)
    (h40 : ¬ ((r = true ∨ p.cap1.bds40 = true) ∧ (isBds40 m).isSome))
    (hgate : r = true ∨ p.cap1.bds50 = true) (h50 : isBds50 m = some t) :
    view50 (p.updateFromModeS m r) = (t.roll, t.track, t.rate, t.gs, t.tas) := by
  unfold Plane.updateFromModeS
  rw [stage50_eq, h50, (reach50 m p r).fire ⟨⟨hcode, h17⟩, h40⟩ (Bool.or_eq_true_iff.mpr hgate)]
  rfl

/-- the 5,0 converse with the sign bit counted as part of each signed value field: the most negative value
    (180 degrees of track, a full-scale left turn) is then a non-zero field -/
theorem isBds50_complete_signed (m : Msg) (L : Long m) (v : Valid50 m)
    (nz : mb m 2 11 ≠ 0 ∧ mb m 13 23 ≠ 0 ∧ mb m 25 34 ≠ 0 ∧ mb m 36 45 ≠ 0 ∧ mb m 47 56 ≠ 0)
    (hroll : -50 * 256 ≤ 45 * twos (mb m 2 2) (mb m 3 11) 9 ∧ 45 * twos (mb m 2 2) (mb m 3 11) 9 < 51 * 256)
    (hgs : 2 * mb m 25 34 ≤ 600) (htas : 2 * mb m 47 56 ≤ 500)
    (hdiff : (if 2 * mb m 25 34 ≤ 2 * mb m 47 56 then 2 * mb m 47 56 - 2 * mb m 25 34 else 2 * mb m 25 34 - 2 * mb m 47 56) < 200) :
    (isBds50 m).isSome = true :=
  Option.isSome_of_eq_some ((isBds50_iff L _).mpr ⟨⟨v, nz⟩, roll_plausible (mb_01 m 2) hroll, hgs, htas, hdiff, rfl⟩)

/-- conversely: a 5,0 register with every status bit set, every value field non-zero and plausible
    values (|roll| <= 50, GS <= 600, TAS <= 500, |GS-TAS| < 200) is recognised as 5,0 - for either
    sign of roll, track and track angle rate -/
theorem isBds50_complete (m : Msg) (L : Long m) (v : Valid50 m)
    (nz : mb m 3 11 ≠ 0 ∧ mb m 14 23 ≠ 0 ∧ mb m 25 34 ≠ 0 ∧ mb m 37 45 ≠ 0 ∧ mb m 47 56 ≠ 0)
    (hroll : -50 * 256 ≤ 45 * twos (mb m 2 2) (mb m 3 11) 9 ∧ 45 * twos (mb m 2 2) (mb m 3 11) 9 < 51 * 256)
    (hgs : 2 * mb m 25 34 ≤ 600) (htas : 2 * mb m 47 56 ≤ 500)
    (hdiff : (if 2 * mb m 25 34 ≤ 2 * mb m 47 56 then 2 * mb m 47 56 - 2 * mb m 25 34 else 2 * mb m 25 34 - 2 * mb m 47 56) < 200) :
    (isBds50 m).isSome = true :=
  isBds50_complete_signed m L v ⟨mb_ne_zero L (a := 2) (by decide) nz.1, mb_ne_zero L (a := 13) (by decide) nz.2.1, nz.2.2.1,
    mb_ne_zero L (a := 36) (by decide) nz.2.2.2.1, nz.2.2.2.2⟩ hroll hgs htas hdiff

-- non-vacuity: a left-turn and a right-turn 5,0 register, a descending and a climbing 6,0 register, a 4,0 register.
-- A string literal is `String.ofList` of its characters by definition, so `String.toList_ofList` hands the kernel the
-- character list and spares it the UTF-8 decoding of `toList`.
example : (isBds50 (hexDigits ("A0000F98F39C19323EC4BEA81EF2".toList.map Char.toNat))).isSome = true := by
  rw [String.toList_ofList]; decide +kernel
example : (isBds50 (hexDigits ("A0000F988C93E9322144BEE9ECD3".toList.map Char.toNat))).isSome = true := by
  rw [String.toList_ofList]; decide +kernel
example : ((isBds50 (hexDigits ("A0000F98F39C19323EC4BEA81EF2".toList.map Char.toNat))).bind (·.rate)) = some (-2)
    ∧ ((isBds50 (hexDigits ("A0000F98F39C19323EC4BEA81EF2".toList.map Char.toNat))).bind (·.roll)) = some (-18) := by
  rw [String.toList_ofList]; decide +kernel
example : (isBds60 (hexDigits ("A0000F98ED49F52D3E27C6458C50".toList.map Char.toNat))).isSome = true := by
  rw [String.toList_ofList]; decide +kernel
example : (isBds60 (hexDigits ("A0000F9892C9F52D21E43A8A1076".toList.map Char.toNat))).isSome = true := by
  rw [String.toList_ofList]; decide +kernel
example : ((isBds60 (hexDigits ("A0000F98ED49F52D3E27C6458C50".toList.map Char.toNat))).bind (·.baroRate)) = some (-1920) := by
  rw [String.toList_ofList]; decide +kernel
example : (isBds40 (hexDigits ("A0000F98BE85F430A800053183AE".toList.map Char.toNat))).isSome = true := by
  rw [String.toList_ofList]; decide +kernel

end Sq.C10
