/-
C12 — Rows live exactly as long as the aircraft is being heard.

An aircraft from which any accepted frame arrived fewer than delete_after whole seconds ago is
always in the table, and its last-contact age restarts at 0 with every accepted frame of any
format under any option set.  An aircraft silent for delete_after seconds or more is removed at
the next sweep, which happens after at most 12 further accepted frames from any aircraft; a later
frame from it starts a fresh row that remembers nothing.  Hence the table never holds more rows
than addresses heard within the last delete_after seconds plus the last 12 frames.

Time is an explicit clock `now` (milliseconds); ages are whole seconds as `num_seconds()` gives them.
-/
import SqModel.Proofs.Expiry
import SqModel.Proofs.Frame

namespace Sq.C12

/-- every accepted frame - any format, either update path, any options - restarts the
    last-contact age of an existing row at 0 -/
theorem contact_refreshes (env : Env) (cfg : DecodeCfg) (now : Int) (p : Plane) (dl : DFRec) (m : Msg) (df : Nat) :
    (applyFrame env cfg now p dl m df).timestamp = now ∧
    numSeconds now (applyFrame env cfg now p dl m df).timestamp = 0 := by
  have h := applyFrame_timestamp env cfg now p dl m df
  exact ⟨h, by rw [h, numSeconds_self]⟩

/-- ... and so does the frame that creates the row -/
theorem contact_at_creation (env : Env) (now : Int) (dl : DFRec) (icao : Nat) :
    (Plane.fromDownlink env now dl icao).timestamp = now := fromDownlink_timestamp env now dl icao

/-- after an accepted line the aircraft it came from is in the table with age 0 (delete_after > 0) -/
theorem heard_is_present (env : Env) (cfg : DecodeCfg) (now : Int) (s : RState) (line : List Nat)
    (m : Msg) (df icao : Nat) (h : acceptedFrame cfg line = some (m, df, icao)) (hnd : s.table.keys.Nodup)
    (hpos : 0 < cfg.deleteAfter) :
    ∃ q, Table.lookup (stepLine env cfg now s line).table icao = some q ∧ q.timestamp = now := by
  obtain ⟨dl, _, hq⟩ := own_row_after env cfg now s line m df icao h hnd hpos
  exact ⟨_, hq, own_row_timestamp (lookup_updateAircraft_same env cfg now s.table dl m df icao)⟩

/-- an aircraft heard fewer than delete_after whole seconds ago survives every step -/
theorem never_removed_while_heard (env : Env) (cfg : DecodeCfg) (now : Int) (s : RState) (line : List Nat)
    (a : Nat) (p : Plane) (hnd : s.table.keys.Nodup) (hp : Table.lookup s.table a = some p)
    (hage : numSeconds now p.timestamp < cfg.deleteAfter) (hclock : p.timestamp ≤ now) :
    ∃ q, Table.lookup (stepLine env cfg now s line).table a = some q :=
  let ⟨q, hq, _⟩ := heard_step env cfg now s line a hnd ⟨p, hp, hage, hclock⟩
  ⟨q, hq⟩

/-- the sweep counter: every accepted frame advances it, nothing else does (it stays within 11: `stepCount_le`) -/
theorem sweep_counter (env : Env) (cfg : DecodeCfg) (now : Int) (s : RState) (line : List Nat) :
    (stepLine env cfg now s line).cleanupCount
      = if (acceptedFrame cfg line).isSome then stepCount s.cleanupCount else s.cleanupCount :=
  stepLine_cases (P := fun r => r.cleanupCount = _) env cfg now s line (fun hf => by rw [hf]; rfl)
    fun _ _ _ _ hf _ => by rw [hf, cleanup_eq]; rfl

/-- a sweep is due after at most 12 further accepted frames, from every reachable counter value -/
theorem sweep_schedule : ∀ c : Fin 12, ∃ j : Fin 12, iter stepCount j.val c.val > 10 := by decide +kernel

/-- a sweep removes exactly the rows silent for delete_after whole seconds or more -/
theorem sweep_exact (env : Env) (cfg : DecodeCfg) (now : Int) (s : RState) (line : List Nat)
    (m : Msg) (df icao : Nat) (h : acceptedFrame cfg line = some (m, df, icao)) (hs : s.cleanupCount > 10) :
    ∃ dl, (stepLine env cfg now s line).table
      = (updateAircraft env cfg now s.table dl m df icao).filter
          (fun kp => numSeconds now kp.2.timestamp < cfg.deleteAfter) :=
  Sq.sweep_exact env cfg now s line m df icao h hs

/-- a silent aircraft is gone after the sweep -/
theorem silent_removed (env : Env) (cfg : DecodeCfg) (now : Int) (s : RState) (line : List Nat)
    (m : Msg) (df icao a : Nat) (p : Plane) (h : acceptedFrame cfg line = some (m, df, icao))
    (hs : s.cleanupCount > 10) (hnd : s.table.keys.Nodup) (ha : a ≠ icao)
    (hp : Table.lookup s.table a = some p) (hold : ¬ numSeconds now p.timestamp < cfg.deleteAfter) :
    Table.lookup (stepLine env cfg now s line).table a = none := by
  obtain ⟨dl, _, hl⟩ := lookup_stepLine_accepted env cfg now s line m df icao h hnd
  rw [hl, lookup_updateAircraft_other _ _ _ _ _ _ _ _ _ ha, hp]
  exact Option.filter_some_neg (decide_eq_false fun hk => hold (hk hs))

/-- a later frame from a removed aircraft starts a fresh row: the row is `Plane::from_downlink` of
    the default row, a function of the frame alone -/
theorem fresh_after_expiry (env : Env) (cfg : DecodeCfg) (now : Int) (s : RState) (line : List Nat)
    (m : Msg) (df icao : Nat) (h : acceptedFrame cfg line = some (m, df, icao)) (hnd : s.table.keys.Nodup)
    (hpos : 0 < cfg.deleteAfter) (habs : Table.lookup s.table icao = none) :
    ∃ dl, DFRec.fromMessage env m = some dl ∧
      Table.lookup (stepLine env cfg now s line).table icao = some (Plane.fromDownlink env now dl icao) := by
  obtain ⟨dl, hdl, hq⟩ := own_row_after env cfg now s line m df icao h hnd hpos
  rw [habs] at hq
  exact ⟨dl, hdl, hq⟩

/-- the bound: right after a sweep every row was heard within delete_after seconds, and between
    sweeps (at most 11 accepted frames) a row can only be added as the row of an accepted frame -/
theorem table_bound_after_sweep (env : Env) (cfg : DecodeCfg) (now : Int) (s : RState) (line : List Nat)
    (m : Msg) (df icao : Nat) (h : acceptedFrame cfg line = some (m, df, icao)) (hs : s.cleanupCount > 10) :
    ∀ kp ∈ (stepLine env cfg now s line).table, numSeconds now kp.2.timestamp < cfg.deleteAfter := by
  obtain ⟨dl, ht⟩ := Sq.sweep_exact env cfg now s line m df icao h hs
  rw [ht]
  exact fun kp hkp => of_decide_eq_true (List.mem_filter.mp hkp).2

theorem table_grows_only_by_heard (env : Env) (cfg : DecodeCfg) (now : Int) (s : RState) (line : List Nat) (a : Nat)
    (ha : a ∈ (stepLine env cfg now s line).table.keys) :
    a ∈ s.table.keys ∨ ∃ m df, acceptedFrame cfg line = some (m, df, a) := by
  refine stepLine_cases (P := fun r => a ∈ r.table.keys → _) env cfg now s line (fun _ => .inl)
    (fun m df icao dl hf _ ha => ?_) ha
  by_cases e : a = icao
  · exact .inr ⟨m, df, e ▸ hf⟩
  · rw [mem_keys_iff, ← lookup_updateAircraft_other env cfg now s.table dl m df icao a e, ← mem_keys_iff]
    exact .inl ((keys_cleanup_sublist ..).subset ha)

-- non-vacuity: the counter starting at 0 sweeps at the 12th accepted frame
example : iter stepCount 11 0 = 11 ∧ iter stepCount 12 0 = 1 := by decide +kernel

end Sq.C12
