/-
C09 — Ground speed, track and vertical rate follow the TC19 velocity encoding.

An airborne-velocity squitter (DF17 TC19 subtype 1 or 2) sets ground speed to
floor(sqrt(Vew^2+Vns^2)) kt (x4 for the supersonic subtype) and track to floor(atan2(Vew,Vns)) in
[0,360) from the signed components (field-1), and sets vertical rate to (+ or -)64*(field-1) ft/min;
a component or rate field of 0 means 'no information' and yields no value for that quantity.
The same values result on the first and on later frames and under every option set.

`atan2deg` is a parameter of the model (DESIGN 4.4): every theorem holds for every such function.
-/
import SqModel.Proofs.Formats
import SqModel.Spec.Velocity

namespace Sq.C09
open Spec

/-- track and ground speed are the specification's function of the six velocity fields -/
theorem velocity_eq_spec (atan : SignedMag → SignedMag → Nat) (m : Msg) (h : AllNib m) (hl : 17 ≤ m.length) (ss : Bool) :
    trackAndGroundspeed atan m ss = velocitySpec atan (velFields m) (if ss then 4 else 1) := by
  have b (n : Nat) (hn : n ≤ 68) : n ≤ 4 * m.length := Nat.le_trans hn (Nat.mul_le_mul_left 4 hl)
  unfold trackAndGroundspeed velocitySpec velocityComponents velocitySignedMag
  rw [rangeValue_eq_field m h 47 56 (by decide) (by decide) (b _ (by decide)),
    rangeValue_eq_field m h 58 67 (by decide) (by decide) (b _ (by decide)),
    flagAndRangeValue_eq m h 46 47 56 (by decide) (b _ (by decide)) (by decide) (by decide) (b _ (by decide)),
    flagAndRangeValue_eq m h 57 58 67 (by decide) (b _ (by decide)) (by decide) (by decide) (b _ (by decide))]
  simp only [velFields, Option.some.injEq]
  have hd : field m 57 57 &&& 1 = field m 57 57 := Nat.and_two_pow_sub_one_of_lt_two_pow (n := 1) (field_bit_lt m 57)
  by_cases hc : field m 47 56 = 0 ∨ field m 58 67 = 0
  · simp [hc]
  · simp only [hc, if_false, vew, vns, hd]
    cases ss <;> simp [Nat.mul_comm]

/-- vertical rate is ±64·(field − 1), none for field 0 -/
theorem vrate_eq_spec (m : Msg) (h : AllNib m) (hl : 20 ≤ m.length) :
    verticalRate m = vrateSpec (velFields m) := by
  have b (n : Nat) (hn : n ≤ 80) : n ≤ 4 * m.length := Nat.le_trans hn (Nat.mul_le_mul_left 4 hl)
  rw [verticalRate, vrateSpec,
    flagAndRangeValue_eq m h 69 70 78 (by decide) (b _ (by decide)) (by decide) (by decide) (b _ (by decide)), filt]
  simp only [velFields]
  by_cases hz : field m 70 78 = 0
  · simp [hz]
  · have : (((field m 70 78 - 1) <<< 6 : Nat) : Int) = 64 * ((field m 70 78 : Int) - 1) := by
      rw [Nat.shiftLeft_eq, Int.natCast_mul, Int.natCast_sub (Nat.pos_of_ne_zero hz), Int.mul_comm]; rfl
    simp only [hz, bne_iff_ne, ne_eq, not_false_eq_true, if_true, if_false, this]
    rfl

/-- both quantities depend on the velocity fields only -/
theorem velocity_depends_only_on_fields (atan : SignedMag → SignedMag → Nat) (m₁ m₂ : Msg) (h₁ : AllNib m₁) (h₂ : AllNib m₂)
    (l₁ : 20 ≤ m₁.length) (l₂ : 20 ≤ m₂.length) (ss : Bool)
    (hf : velFields m₁ = velFields m₂) :
    trackAndGroundspeed atan m₁ ss = trackAndGroundspeed atan m₂ ss ∧ verticalRate m₁ = verticalRate m₂ := by
  rw [velocity_eq_spec atan m₁ h₁ (Nat.le_trans (by decide) l₁), velocity_eq_spec atan m₂ h₂ (Nat.le_trans (by decide) l₂),
    vrate_eq_spec m₁ h₁ l₁, vrate_eq_spec m₂ h₂ l₂, hf]
  exact ⟨rfl, rfl⟩

/-- an existing row hit by a TC19 subtype 1/2 squitter shows the frame's speed, track and vertical
    rate — on the default path and on the -U path alike, for any -R -/
theorem row_velocity_after_TC19 (env : Env) (cfg : DecodeCfg) (now : Int) (p : Plane) (m : Msg)
    (hdf : getDownlinkFormat m = some 17) (htc : (getMessageType m).1 = 19)
    (hst : (getMessageType m).2 = 1 ∨ (getMessageType m).2 = 2) (hicao : (getIcao m 17).isSome) :
    (applyFrame env cfg now p (.ext (Ext.fromMessage env m)) m 17).track = (velocityOf env m (getMessageType m).2).1
    ∧ (applyFrame env cfg now p (.ext (Ext.fromMessage env m)) m 17).grspeed = (velocityOf env m (getMessageType m).2).2
    ∧ (applyFrame env cfg now p (.ext (Ext.fromMessage env m)) m 17).vrate = verticalRate m := by
  rw [applyFrame_ext env cfg now p m hdf, if_pos (.inr hicao), extArm, tcClass_velocity htc]
  exact ⟨if_pos hst, if_pos hst, rfl⟩

/-- "with and without -U": the two update paths agree on the three quantities -/
theorem paths_agree_TC19 (env : Env) (cfg₁ cfg₂ : DecodeCfg) (now : Int) (p : Plane) (m : Msg)
    (hdf : getDownlinkFormat m = some 17) (htc : (getMessageType m).1 = 19)
    (hst : (getMessageType m).2 = 1 ∨ (getMessageType m).2 = 2) (hicao : (getIcao m 17).isSome) :
    (applyFrame env cfg₁ now p (.ext (Ext.fromMessage env m)) m 17).track
      = (applyFrame env cfg₂ now p (.ext (Ext.fromMessage env m)) m 17).track
    ∧ (applyFrame env cfg₁ now p (.ext (Ext.fromMessage env m)) m 17).grspeed
      = (applyFrame env cfg₂ now p (.ext (Ext.fromMessage env m)) m 17).grspeed
    ∧ (applyFrame env cfg₁ now p (.ext (Ext.fromMessage env m)) m 17).vrate
      = (applyFrame env cfg₂ now p (.ext (Ext.fromMessage env m)) m 17).vrate := by
  have a := row_velocity_after_TC19 env cfg₁ now p m hdf htc hst hicao
  have b := row_velocity_after_TC19 env cfg₂ now p m hdf htc hst hicao
  exact ⟨a.1.trans b.1.symm, a.2.1.trans b.2.1.symm, a.2.2.trans b.2.2.symm⟩

/-- the creating frame gives the same values -/
theorem creating_velocity_TC19 (env : Env) (now : Int) (m : Msg) (icao : Nat)
    (hdf : getDownlinkFormat m = some 17) (htc : (getMessageType m).1 = 19)
    (hst : (getMessageType m).2 = 1 ∨ (getMessageType m).2 = 2) (hicao : (getIcao m 17).isSome) :
    (Plane.fromDownlink env now (.ext (Ext.fromMessage env m)) icao).track = (velocityOf env m (getMessageType m).2).1
    ∧ (Plane.fromDownlink env now (.ext (Ext.fromMessage env m)) icao).grspeed = (velocityOf env m (getMessageType m).2).2
    ∧ (Plane.fromDownlink env now (.ext (Ext.fromMessage env m)) icao).vrate = verticalRate m := by
  rw [fromDownlink_ext, amendExt_fromMessage env m hdf, if_pos hicao]
  simp only [extArm, tcClass_velocity htc]
  exact ⟨if_pos hst, if_pos hst, rfl⟩

/-- the supersonic subtype is within 4 kt of 4·sqrt(s) (s in units of (4 kt)^2) -/
theorem within_4kt (s : Nat) : 4 * Nat.sqrt s ≤ 4 * Nat.sqrt s ∧ (4 * Nat.sqrt s) * (4 * Nat.sqrt s) ≤ 16 * s
    ∧ 16 * s < (4 * Nat.sqrt s + 4) * (4 * Nat.sqrt s + 4) := by
  have e (a : Nat) : 4 * a * (4 * a) = 16 * (a * a) := Nat.mul_mul_mul_comm 4 a 4 a
  refine ⟨Nat.le_refl _, ?_, ?_⟩
  · rw [e]; exact Nat.mul_le_mul_left 16 (Nat.sqrt_le s)
  · rw [← Nat.mul_succ, e]; exact Nat.mul_lt_mul_of_pos_left (Nat.lt_succ_sqrt s) (by decide)

-- non-vacuity: the repository's own test vector (`test_track_and_groundspeed`: 416 kt, track 321).  `atan2deg` is a
-- parameter, here the constant 321: the example checks the ground speed, and that the track is the parameter's value
example : (trackAndGroundspeed (fun _ _ => 321) (hexDigits ("8DC06A75990D0628B0040C8AA788".toList.map Char.toNat)) false)
    = (some 321, some 416) := by
  -- a literal is `String.ofList` of its characters: the rewrite spares the kernel the UTF-8 decoding of `toList`
  rw [String.toList_ofList]; decide +kernel

end Sq.C09
