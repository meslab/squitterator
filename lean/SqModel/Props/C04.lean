/-
C04 — Squitters with failing parity never change the table.

A DF17 or DF18 frame is applied only if the Mode S CRC-24 remainder of the whole 112-bit frame
is zero, and a DF11 frame only if the upper 17 bits of its 24-bit remainder are zero.  Every
other DF11/17/18 frame - e.g. a valid squitter hit by any error pattern the CRC detects -
leaves the aircraft table completely unchanged.
-/
import SqModel.Proofs.Gate
import SqModel.Proofs.Reader
import SqModel.Props.C02

namespace Sq.C04
open Spec

/-- the gate: whatever `get_message` lets through satisfies the parity rule of its format -/
theorem parity_gate (line : List Nat) (m : Msg) (h : getMessage line = some m) :
    ((Spec.df m = 17 ∨ Spec.df m = 18) → syndrome (bitsOf m 1 (4 * m.length)) = 0)
    ∧ (Spec.df m = 11 → (syndrome (bitsOf m 1 (4 * m.length))).toNat &&& 0xFFFF80 = 0) := by
  have hp := ((C02.getMessage_iff line m).mp h).2.2
  unfold Spec.parityOK at hp
  constructor
  · intro hd
    simp only [hd, if_true] at hp
    apply BitVec.eq_of_toNat_eq
    simpa using hp
  · intro hd
    simp only [hd, if_true] at hp
    simpa using hp

/-- a DF11/17/18 digit sequence that fails the rule is not taken as a frame at all -/
theorem reject (line : List Nat) (m : Msg) (hf : frameOf (hexDigits line) = some m)
    (hbad : Spec.parityOK m = false) : getMessage line = none := by
  rw [getMessage_eq_spec, acceptDigits, hf]
  exact if_neg (by rw [hbad, Bool.and_false]; exact Bool.false_ne_true)

/-- ... and so changes nothing: table, counters, sweep schedule -/
theorem reject_noop (env : Env) (cfg : DecodeCfg) (now : Int) (s : RState) (line : List Nat) (m : Msg)
    (hf : frameOf (hexDigits line) = some m) (hbad : Spec.parityOK m = false) :
    stepLine env cfg now s line = s :=
  C02.nonframe_noop env cfg now s line (reject line m hf hbad)

/-- ... at any point of any history -/
theorem reject_anywhere (env : Env) (cfg : DecodeCfg) (now : Int) (t : Table)
    (pre post : List (List Nat)) (bad : List Nat) (m : Msg)
    (hf : frameOf (hexDigits bad) = some m) (hbad : Spec.parityOK m = false) :
    runSegment env cfg now t (pre ++ [bad] ++ post) = runSegment env cfg now t (pre ++ post) :=
  junk_insertion env cfg now t pre [bad] post fun l hl => by
    rw [List.mem_singleton.mp hl, isAccepted, acceptedFrame, reject bad m hf hbad]
    rfl

/-- the remainder is linear: corrupting a frame adds the remainder of the error pattern -/
theorem syndrome_linear (f e : List Bool) (h : f.length = e.length) :
    syndrome (List.zipWith Bool.xor f e) = syndrome f ^^^ syndrome e :=
  syndrome_xor f e h

/-- a valid squitter hit by an error pattern the CRC detects no longer has remainder zero -/
theorem corrupted_rejected (f e : List Bool) (h : f.length = e.length)
    (hf : syndrome f = 0) (he : syndrome e ≠ 0) : syndrome (List.zipWith Bool.xor f e) ≠ 0 := by
  rw [syndrome_linear f e h, hf]; simpa using he

theorem step0_ne_zero (r : BitVec 24) (h : r ≠ 0) : specStep r false ≠ 0 := by
  intro h0
  rw [specStep_eq] at h0
  cases hm : r.msb
  · -- nothing falls out: `r < 2^23` is doubled
    have hlt := BitVec.msb_eq_false_iff_two_mul_lt.mp hm
    have := congrArg BitVec.toNat h0
    simp [hm, sel, Nat.shiftLeft_eq] at this
    exact h (BitVec.eq_of_toNat_eq (by simp; omega))
  · -- the generator is subtracted, and its constant term stays
    have := congrArg (·.getLsbD 0) h0
    simp [hm, sel, G] at this

theorem padded_ne_zero (a k : Nat) (e : List Bool) (h : syndrome e ≠ 0) :
    syndrome (List.replicate a false ++ e ++ List.replicate k false) ≠ 0 := by
  rw [← syndrome_zeros_append a e] at h
  unfold syndrome at h ⊢
  rw [List.foldl_append]
  exact List.foldlRecOn (motive := (· ≠ 0)) _ _ h fun r hr b hb => List.eq_of_mem_replicate hb ▸ step0_ne_zero r hr

/-- every non-zero error confined to 24 consecutive bit positions is detected, wherever it sits
    in a frame of any length (in particular every burst of up to 24 bits and every single-bit error) -/
theorem burst_detected (a k : Nat) (w : BitVec 24) (hw : w ≠ 0) :
    syndrome (List.replicate a false ++ bvBits w ++ List.replicate k false) ≠ 0 :=
  padded_ne_zero a k _ (by rw [syndrome_bits24]; exact hw)

/-- remainders of all two-bit patterns, by distance: one pass along the remainders of the first error bit and the zeros after it,
    the second error bit tried at every step -/
theorem double_bit_table (d : Nat) (hd : d < 111) : syndrome (true :: (List.replicate d false ++ [true])) ≠ 0 := by
  rw [syndrome, List.foldl_cons, List.foldl_append, foldl_zeros_eq_iter]
  exact bne_iff_ne.mp (orbitAll_spec (fun r => specStep r true != 0) _ 111 _ (by decide +kernel) d hd)

/-- every double-bit error within a frame of up to 112 bits is detected -/
theorem double_bit_detected (a d k : Nat) (hd : d < 111) :
    syndrome (List.replicate a false ++ (true :: (List.replicate d false ++ [true])) ++ List.replicate k false) ≠ 0 :=
  padded_ne_zero a k _ (double_bit_table d hd)

-- non-vacuity: a valid squitter, and the same squitter with one bit flipped
-- `String.toList_ofList`: a literal is `String.ofList` of its characters, and the rewrite spares the kernel the UTF-8 decoding of `toList`
example : Spec.parityOK (hexDigits ("8D40621D58C382D690C8AC2863A7".toList.map Char.toNat)) = true := by
  rw [String.toList_ofList]; decide +kernel
example : Spec.parityOK (hexDigits ("8D40621D58C382D690C8AC2863A6".toList.map Char.toNat)) = false := by
  rw [String.toList_ofList]; decide +kernel
example : getMessage ("8D40621D58C382D690C8AC2863A6".toList.map Char.toNat) = none := by
  rw [String.toList_ofList, getMessage_eq_spec]; decide +kernel

end Sq.C04
