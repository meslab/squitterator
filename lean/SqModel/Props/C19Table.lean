/-
C19, lifted to whole reader runs: -U (and -R, -c) do not change what a history of valid
DF4/5/11/17 frames leaves in the table, as far as the listed parameters, the last-contact times and
the set and order of rows are concerned.
-/
import SqModel.Props.C19

namespace Sq.C19

def tview (t : Table) : List (Nat × UView) := t.map fun kp => (kp.1, uview kp.2)

/-- a line the -U clause speaks about: not accepted at all, or an accepted DF4 (carrying an altitude),
    DF5, DF11 or DF17 frame -/
def UValid (cfg : DecodeCfg) (line : List Nat) : Prop :=
  match acceptedFrame cfg line with
  | none => True
  | some (m, df, _) => (df = 4 ∨ df = 5 ∨ df = 11 ∨ df = 17) ∧ (df = 4 → (altitude m 4).isSome)

/-- **-U is decode-neutral over a whole reader run.**  Two option sets that differ in -U, -R and -c only agree
    on the listed parameters - rows, order, last-contact times included - after any history of lines each of
    which is either not accepted or a valid DF4/5/11/17 frame: the statement for `read_lines` itself, same
    starting table, fresh counters -/
theorem U_neutral_segment (env : Env) (cfg₁ cfg₂ : DecodeCfg) (now : Int)
    (hf : cfg₁.filter = cfg₂.filter) (hd : cfg₁.deleteAfter = cfg₂.deleteAfter)
    (t : Table) (lines : List (List Nat)) (hl : ∀ l ∈ lines, UValid cfg₁ l) :
    tview (runSegment env cfg₁ now t lines).table = tview (runSegment env cfg₂ now t lines).table := by
  refine (run_view (v := uview) (env₁ := env) (env₂ := env) ⟨⟨UView.timestamp, fun _ => rfl⟩, hd, hf, fun _ => rfl⟩ now lines ?_
    { table := t } { table := t } ⟨rfl, rfl⟩).table
  intro line hline m df icao dl ha hdl
  have hv := hl line hline
  unfold UValid at hv
  rw [ha] at hv
  obtain ⟨_, hdf, hic, _⟩ := acceptedFrame_parts cfg₁ line m df icao ha
  exact ⟨fun p₁ p₂ h => U_neutral_step env cfg₁ cfg₂ now p₁ p₂ m df dl hdf hdl (by rw [hic]; rfl) hv.1 hv.2 h, rfl⟩

end Sq.C19
