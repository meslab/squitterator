/-
C19, the -O clause: the observer's coordinates influence the distance column and nothing else - per frame on
either update path, and over whole reader runs (same rows, same order, same sweeps).
-/
import SqModel.Proofs.Frame
import SqModel.Proofs.Stage
import SqModel.Proofs.RunView

namespace Sq.C19

def eraseDist (p : Plane) : Plane := { p with distance := none }

theorem fromMessage_obs (a : SignedMag → SignedMag → Nat) (d₁ d₂ : Option (Rat → Rat → Rat)) (m : Msg) :
    DFRec.fromMessage ⟨a, d₁⟩ m = DFRec.fromMessage ⟨a, d₂⟩ m := rfl

def DEq (q₁ q₂ : Plane) : Prop := eraseDist q₁ = eraseDist q₂

theorem DEq_of_setDist (q : Plane) (x y : Option Rat) : DEq { q with distance := x } { q with distance := y } := rfl

/- Seen without the distance, a step under any observer is the step without observer on the row without
   distance: `eraseDist (F ⟨a, d⟩ q) = F ⟨a, none⟩ (eraseDist q)` for every `F` on the way from `update_position`
   up to `applyFrame`.  An `if` is entered by `apply_ite eraseDist` and `ite_congr` (`split` is slow on rows). -/
section
variable (a : SignedMag → SignedMag → Nat) (d : Option (Rat → Rat → Rat)) (q : Plane)

theorem updatePosition_obs (tc f : Nat) :
    eraseDist (q.updatePosition ⟨a, d⟩ tc f) = (eraseDist q).updatePosition ⟨a, none⟩ tc f := by
  -- position decoding does not look at the distance
  have e : (eraseDist q).posDecode tc f = q.posDecode tc f := rfl
  unfold Plane.updatePosition
  rw [e]
  cases q.posDecode tc f <;> rfl

theorem storeCpr_obs (tc : Nat) (c : Option (Nat × Nat × Nat)) :
    eraseDist (q.storeCpr ⟨a, d⟩ tc c) = (eraseDist q).storeCpr ⟨a, none⟩ tc c := by
  cases c with
  | none => rfl
  | some c => exact updatePosition_obs ..

theorem amendExt_obs (dl : Ext) : eraseDist (q.amendExt ⟨a, d⟩ dl) = (eraseDist q).amendExt ⟨a, none⟩ dl := by
  refine (apply_ite eraseDist ..).trans (ite_congr rfl (fun _ => ?_) fun _ => rfl)
  rw [Plane.amendExtTc_eq, Plane.amendExtTc_eq]
  cases tcClass dl.messageType.1
  case surface | airborne => exact storeCpr_obs ..
  all_goals rfl

theorem updateFromDownlink_obs (now : Int) (dl : DFRec) :
    eraseDist (q.updateFromDownlink ⟨a, d⟩ now dl) = (eraseDist q).updateFromDownlink ⟨a, none⟩ now dl := by
  cases dl with
  | srt v => exact (apply_ite eraseDist ..).trans rfl
  | ext v => exact amendExt_obs ..
  | mds icao => rfl

theorem updateExtTc_obs (m : Msg) (df tc st : Nat) :
    eraseDist (q.updateExtTc ⟨a, d⟩ m df tc st) = (eraseDist q).updateExtTc ⟨a, none⟩ m df tc st := by
  rw [Plane.updateExtTc_eq, Plane.updateExtTc_eq]
  cases tcClass tc
  case surface | airborne => exact storeCpr_obs ..
  all_goals rfl

/-- the Comm-B decode neither reads nor writes the distance: stage by stage it commutes with blanking it -/
theorem updateFromModeS_obs (m : Msg) (r : Bool) :
    eraseDist (q.updateFromModeS m r) = (eraseDist q).updateFromModeS m r := by
  have hc : stageCoded m (eraseDist q) = (eraseDist (stageCoded m q).1, (stageCoded m q).2) := by
    rw [stageCoded_eq, stageCoded_eq]; rfl
  unfold Plane.updateFromModeS
  simp only [stage45_eq, stage44_eq, stage60_eq, stage50_eq, stage40_eq, stage17_eq, hc]
  iterate 6 rw [stageG_comm eraseDist]
  all_goals intros; rfl

theorem update_obs (now : Int) (m : Msg) (df : Nat) (r : Bool) :
    eraseDist (q.update ⟨a, d⟩ now m df r) = (eraseDist q).update ⟨a, none⟩ now m df r := by
  have hx : ∀ x : Plane, eraseDist (x.extStep ⟨a, d⟩ m df) = (eraseDist x).extStep ⟨a, none⟩ m df := fun _ =>
    (apply_ite eraseDist ..).trans (ite_congr rfl (fun _ => updateExtTc_obs ..) fun _ => rfl)
  have hb : ∀ x : Plane, eraseDist (x.commBStep m df r) = (eraseDist x).commBStep m df r := fun _ =>
    (apply_ite eraseDist ..).trans (ite_congr rfl (fun _ => updateFromModeS_obs ..) fun _ => rfl)
  rw [Plane.update_eq, Plane.update_eq, hb, hx]
  rfl

theorem applyFrame_obs (cfg : DecodeCfg) (now : Int) (dl : DFRec) (m : Msg) (df : Nat) :
    eraseDist (applyFrame ⟨a, d⟩ cfg now q dl m df) = applyFrame ⟨a, none⟩ cfg now (eraseDist q) dl m df :=
  (apply_ite eraseDist ..).trans (ite_congr rfl (fun _ => updateFromDownlink_obs ..) fun _ => update_obs ..)
end

def dview (t : Table) : List (Nat × Plane) := t.map fun kp => (kp.1, eraseDist kp.2)

/-- **-O changes the distance column only, over a whole reader run.**  Same options, same lines, environments
    that differ in the observer only: the two tables have the same rows in the same order and agree on every
    field except possibly the distance (and the sweeps fall on the same lines). -/
theorem observer_only_distance (a : SignedMag → SignedMag → Nat) (d₁ d₂ : Option (Rat → Rat → Rat))
    (cfg : DecodeCfg) (now : Int) (t : Table) (lines : List (List Nat)) :
    dview (runSegment ⟨a, d₁⟩ cfg now t lines).table = dview (runSegment ⟨a, d₂⟩ cfg now t lines).table :=
  (run_view (v := eraseDist) (env₁ := ⟨a, d₁⟩) (env₂ := ⟨a, d₂⟩) (cfg₁ := cfg) (cfg₂ := cfg)
    ⟨⟨Plane.timestamp, fun _ => rfl⟩, rfl, rfl, fun _ => rfl⟩ now lines
    (fun _ _ _ _ _ _ _ _ => ⟨fun p₁ p₂ h => by rw [applyFrame_obs, applyFrame_obs, h],
      by unfold Plane.fromDownlink; rw [updateFromDownlink_obs, updateFromDownlink_obs]⟩)
    { table := t } { table := t } ⟨rfl, rfl⟩).table

end Sq.C19
