/-
C06 — Squawk equals the octal identity code of the latest DF5/DF21 reply.

For every DF5 or DF21 reply the squawk shown for that aircraft is the four octal digits A B C D
of the 13-bit identity field (bit order C1 A1 C2 A2 C4 A4 X B1 D1 B2 D2 B4 D4), for all 8192
field values, whatever the other bits of the frame; no other downlink format changes it.
-/
import SqModel.Proofs.Fields
import SqModel.Proofs.Frame
import SqModel.Proofs.Accept

namespace Sq.C06
open Spec

/-- the decoder computes the octal identity of bits 20..32, for every digit vector that has them -/
theorem squawk_eq_spec (m : Msg) (h : AllNib m) (hl : 8 ≤ m.length) :
    squawk m = some (squawkSpec (field m 20 32)) := by
  -- `ma_code` is a function of the field (`maOfField`: the field with its X bit moved to the end), and each octal
  -- digit the code reads off that is made of the three bits the specification names
  rw [squawk, maCode_eq_maOfField m h hl, squawkOfCode_maOfField]

/-- "whatever the other bits of the frame": two frames with the same ID field give the same squawk -/
theorem squawk_depends_only_on_field (m₁ m₂ : Msg) (h₁ : AllNib m₁) (h₂ : AllNib m₂)
    (l₁ : 8 ≤ m₁.length) (l₂ : 8 ≤ m₂.length) (hf : field m₁ 20 32 = field m₂ 20 32) :
    squawk m₁ = squawk m₂ := by
  rw [squawk_eq_spec m₁ h₁ l₁, squawk_eq_spec m₂ h₂ l₂, hf]

theorem squawk_update (env : Env) (now : Int) (p : Plane) (m : Msg) (df : Nat) (r : Bool) :
    (p.update env now m df r).squawk = if df = 5 ∨ df = 21 then squawk m else p.squawk :=
  update_proj Plane.squawk (fun _ => rfl) (fun _ => rfl) ..

theorem squawk_updateFromDownlink (env : Env) (now : Int) (p : Plane) (dl : DFRec) :
    (p.updateFromDownlink env now dl).squawk =
      match dl with
      | .srt v => if v.icao.isSome ∧ v.df = some 5 ∧ v.squawk.isSome then v.squawk else p.squawk
      | _ => p.squawk := by
  rw [updateFromDownlink_proj Plane.squawk fun _ => rfl]
  cases dl with
  | srt v => by_cases hi : v.icao.isSome = true <;> simp [Plane.amendSrt, hi]
  | _ => rfl

theorem squawk_default (env : Env) (now : Int) (p : Plane) (m : Msg) (df : Nat) (dl : DFRec)
    (hdf : getDownlinkFormat m = some df) (hdl : DFRec.fromMessage env m = some dl) :
    (p.updateFromDownlink env now dl).squawk = if df = 5 ∧ (getIcao m df).isSome then squawk m else p.squawk := by
  rw [squawk_updateFromDownlink]
  rcases (show df ≤ 16 ∨ df = 17 ∨ (df = 20 ∨ df = 21) ∨ (df = 18 ∨ df = 19 ∨ 22 ≤ df) by omega) with h | rfl | h | h
  · cases (fromMessage_srt env m df hdf h).symm.trans hdl
    rw [srt_fromMessage m df hdf]
    by_cases h5 : df = 5 <;> simp [h5, squawk, and_comm]
  · cases (fromMessage_df17 env m hdf).symm.trans hdl
    exact (if_neg fun h => absurd h.1 (by decide)).symm
  · cases (fromMessage_mds env m df hdf h).symm.trans hdl
    exact (if_neg fun h5 => by omega).symm
  · cases (fromMessage_unknown env m df hdf h).symm.trans hdl
    exact (if_neg fun h5 => by omega).symm

/-- an existing row hit by a DF5/DF21 reply shows that reply's squawk — both update paths, any options -/
theorem row_squawk_after_DF5_21 (env : Env) (cfg : DecodeCfg) (now : Int) (p : Plane) (m : Msg)
    (df : Nat) (dl : DFRec) (hdf : getDownlinkFormat m = some df) (h : df = 5 ∨ df = 21)
    (hicao : (getIcao m df).isSome) (hdl : DFRec.fromMessage env m = some dl) :
    (applyFrame env cfg now p dl m df).squawk = squawk m := by
  unfold applyFrame
  split
  · rw [squawk_default env now p m df dl hdf hdl, if_pos ⟨by omega, hicao⟩]
  · rw [squawk_update, if_pos h]

/-- no other downlink format changes the squawk — both paths, every DF, every type code -/
theorem other_DF_preserve_squawk (env : Env) (cfg : DecodeCfg) (now : Int) (p : Plane) (m : Msg)
    (df : Nat) (dl : DFRec) (hdf : getDownlinkFormat m = some df) (h5 : df ≠ 5) (h21 : df ≠ 21)
    (hdl : DFRec.fromMessage env m = some dl) :
    (applyFrame env cfg now p dl m df).squawk = p.squawk := by
  unfold applyFrame
  split
  · rw [squawk_default env now p m df dl hdf hdl, if_neg fun h => h5 h.1]
  · rw [squawk_update, if_neg (by omega)]

/-- the frame that creates the row: a DF5 sets the squawk, anything else (DF21 included, which
    contributes the address only) leaves it blank -/
theorem creating_frame_squawk (env : Env) (now : Int) (m : Msg) (df icao : Nat) (dl : DFRec)
    (hdf : getDownlinkFormat m = some df) (hicao : (getIcao m df).isSome)
    (hdl : DFRec.fromMessage env m = some dl) :
    (Plane.fromDownlink env now dl icao).squawk = if df = 5 then squawk m else none := by
  rw [Plane.fromDownlink, squawk_default env now _ m df dl hdf hdl]
  exact ite_congr (propext (and_iff_left hicao)) (fun _ => rfl) fun _ => rfl

/-- the property in one statement: after an accepted DF5/DF21 line the existing row of that
    aircraft shows the octal identity of bits 20..32 of the frame -/
theorem squawk_shown (env : Env) (cfg : DecodeCfg) (now : Int) (p : Plane) (line : List Nat) (m : Msg)
    (df : Nat) (dl : DFRec) (hm : getMessage line = some m) (hdf : getDownlinkFormat m = some df)
    (h : df = 5 ∨ df = 21) (hicao : (getIcao m df).isSome) (hdl : DFRec.fromMessage env m = some dl) :
    (applyFrame env cfg now p dl m df).squawk = some (squawkSpec (field m 20 32)) := by
  rw [row_squawk_after_DF5_21 env cfg now p m df dl hdf h hicao hdl]
  have hl := getMessage_length hm
  exact squawk_eq_spec m (getMessage_allNib hm) (by omega)

/-- the hypotheses are satisfiable: a recorded DF5 reply (squawk 5611) -/
example : let line := "2800189A8E0F41".toList.map Char.toNat
    ∃ m, getMessage line = some m ∧ getDownlinkFormat m = some 5 ∧ (getIcao m 5).isSome
      ∧ squawk m = some 5611 := by
  -- a literal is `String.ofList` of its characters: the rewrite spares the kernel the UTF-8 decoding of `toList`
  rw [String.toList_ofList]; decide +kernel

end Sq.C06
