/-
C08 — Airborne position is the correct global CPR decode or is left unchanged.

When an aircraft's latest even and latest odd airborne-position squitters (TC 9-18) were received
less than 10 whole seconds apart and encode positions in the same latitude zone, the position shown
is the globally unambiguous CPR decoding anchored on the newer frame; in every other case (single
frame, frames 10 s or more apart, zone-straddling pair) the previously shown position is left as it
was - a position not supported by a valid pair is never displayed.

This file: the state machine (which frames may move the position, under which guard, to what).
`Proofs/CprMath.lean` and `Props/C08Math.lean`: the decoded value against the CPR encoding.
The IEEE-754 evaluation of the same formulas in the code and the metres clause are modelled, not
proved (DESIGN 5.8): the check compares every generated pair numerically and against 20 m.
-/
import SqModel.Props.C11

namespace Sq.C08

/-- the guard of `update_position`, read off a successful decode (a field of 0 counts as not received;
    that the decoder returned a value says that the two candidate latitudes lie in the same NL zone) -/
theorem posDecode_guard (p : Plane) (tc form : Nat) (ll : Rat × Rat) (h : p.posDecode tc form = some ll) :
    p.cprLat0 ≠ 0 ∧ p.cprLat1 ≠ 0 ∧ p.cprLon0 ≠ 0 ∧ p.cprLon1 ≠ 0
    ∧ p.cprSurf0 = p.cprSurf1
    ∧ (numSeconds p.cprTime0 p.cprTime1).natAbs < 10
    ∧ (5 ≤ tc ∧ tc ≤ 18)
    ∧ cprLocation p.cprLat0 p.cprLat1 p.cprLon0 p.cprLon1 form (if tc ≤ 8 then 4 else 1) = some ll
    ∧ (-90 ≤ ll.1 ∧ ll.1 ≤ 90 ∧ -180 ≤ ll.2 ∧ ll.2 ≤ 180) := by
  unfold Plane.posDecode at h
  split at h
  case isFalse => cases h
  rename_i hg
  obtain ⟨hl, hr⟩ := Option.filter_eq_some_iff.mp h
  refine ⟨hg.1, hg.2.1, hg.2.2.1, hg.2.2.2.1, hg.2.2.2.2.1, hg.2.2.2.2.2, ?_⟩
  split at hl
  · rename_i t
    exact ⟨by omega, by rwa [if_pos t.2], of_decide_eq_true hr⟩
  split at hl
  · exact ⟨by omega, by rwa [if_neg (by omega)], of_decide_eq_true hr⟩
  · cases hl

/-- a CPR field that is exactly 0 counts as not received: no position can be decoded -/
theorem zero_field_is_absent (p : Plane) (tc form : Nat)
    (h : p.cprLat0 = 0 ∨ p.cprLat1 = 0 ∨ p.cprLon0 = 0 ∨ p.cprLon1 = 0) : p.posDecode tc form = none :=
  if_neg fun g => h.elim g.1 (·.elim g.2.1 (·.elim g.2.2.1 g.2.2.2.1))

/-- frames 10 whole seconds or more apart never pair -/
theorem stale_pair_rejected (p : Plane) (tc form : Nat) (h : 10 ≤ (numSeconds p.cprTime0 p.cprTime1).natAbs) :
    p.posDecode tc form = none :=
  if_neg fun g => Nat.not_lt.mpr h g.2.2.2.2.2

/-- a zone-straddling pair (the two candidate latitudes fall into different NL zones) is rejected -/
theorem zone_straddling_rejected (lat0 lat1 lon0 lon1 form : Nat) (coeff : Int)
    (h : nlOf (cprRlat lat0 lat1).1 ≠ nlOf (cprRlat lat0 lat1).2) :
    cprLocation lat0 lat1 lon0 lon1 form coeff = none := by
  unfold cprLocation
  simp only [h, if_false]

theorem updatePosition_none (env : Env) (p : Plane) (a b : Nat) (h : p.posDecode a b = none) :
    p.updatePosition env a b = p := by
  unfold Plane.updatePosition; rw [h]

theorem updatePosition_some (env : Env) (p : Plane) (a b : Nat) (ll : Rat × Rat) (h : p.posDecode a b = some ll) :
    (p.updatePosition env a b).lat = ll.1 ∧ (p.updatePosition env a b).lon = ll.2
    ∧ (p.updatePosition env a b).positionTimestamp = some p.timestamp
    ∧ (p.updatePosition env a b).distance = (match env.dist with
                                              | some d => some (d ll.1 ll.2)
                                              | none => p.distance) := by
  unfold Plane.updatePosition; rw [h]; exact ⟨rfl, rfl, rfl, rfl⟩

/-- the position shown either stays exactly as it was, or is the decode of the stored pair anchored
    on the frame just received, under the guard above; the distance column is then the configured
    distance function of exactly that position (and stays as it was when no observer is configured) -/
theorem position_is_decode_or_unchanged (env : Env) (p : Plane) (tc : Nat) (c : Nat × Nat × Nat) :
    (((p.storeCpr env tc (some c)).lat, (p.storeCpr env tc (some c)).lon, (p.storeCpr env tc (some c)).distance,
        (p.storeCpr env tc (some c)).positionTimestamp) = (p.lat, p.lon, p.distance, p.positionTimestamp)
      ∧ (p.setCprSlot tc c).posDecode tc c.1 = none)
    ∨ (∃ ll, (p.setCprSlot tc c).posDecode tc c.1 = some ll
        ∧ (p.storeCpr env tc (some c)).lat = ll.1 ∧ (p.storeCpr env tc (some c)).lon = ll.2
        ∧ (p.storeCpr env tc (some c)).positionTimestamp = some p.timestamp
        ∧ (p.storeCpr env tc (some c)).distance = (match env.dist with
                                                    | some d => some (d ll.1 ll.2)
                                                    | none => p.distance)) := by
  have e : p.storeCpr env tc (some c) = (p.setCprSlot tc c).updatePosition env tc c.1 := rfl
  rw [e]
  cases hd : (p.setCprSlot tc c).posDecode tc c.1 with
  | none => left; rw [updatePosition_none env _ _ _ hd]; exact ⟨rfl, rfl⟩
  | some ll =>
    right
    obtain ⟨h1, h2, h3, h4⟩ := updatePosition_some env _ _ _ ll hd
    exact ⟨ll, rfl, h1, h2, h3, h4⟩

/-- the receive time of the slot just filled is the row's last-contact time, which every accepted
    frame sets to the current time (C12.contact_refreshes): so the 10 s window is measured between the
    actual receive times of the two frames on both update paths -/
theorem slot_time_is_now (p : Plane) (tc : Nat) (c : Nat × Nat × Nat) :
    (if c.1 = 0 then (p.setCprSlot tc c).cprTime0 else (p.setCprSlot tc c).cprTime1) = p.timestamp
    ∧ (if c.1 = 0 then (p.setCprSlot tc c).cprTime1 = p.cprTime1 else (p.setCprSlot tc c).cprTime0 = p.cprTime0) := by
  unfold Plane.setCprSlot
  by_cases h : c.1 = 0 <;> simp [h]

/-- a committed position is in range -/
theorem range_commit (env : Env) (p : Plane) (tc : Nat) (c : Nat × Nat × Nat)
    (h : (p.storeCpr env tc (some c)).positionTimestamp ≠ p.positionTimestamp) :
    -90 ≤ (p.storeCpr env tc (some c)).lat ∧ (p.storeCpr env tc (some c)).lat ≤ 90
    ∧ -180 ≤ (p.storeCpr env tc (some c)).lon ∧ (p.storeCpr env tc (some c)).lon ≤ 180 := by
  rcases position_is_decode_or_unchanged env p tc c with ⟨hu, _⟩ | ⟨ll, hd, h1, h2, _, _⟩
  · simp only [Prod.mk.injEq] at hu
    exact absurd hu.2.2.2 h
  · have := (posDecode_guard _ tc c.1 ll hd).2.2.2.2.2.2.2.2
    rw [h1, h2]; exact this

/-- position, distance, the CPR slots and their receive times (`posView` below has the surface marks of the slots as well) -/
def posFields (r : Plane) :=
  (r.lat, r.lon, r.distance, r.positionTimestamp, r.cprLat0, r.cprLat1, r.cprLon0, r.cprLon1, r.cprTime0, r.cprTime1)

/-- every frame that is not a position squitter leaves position, distance, the CPR slots and their
    receive times exactly as they were: for the velocity, identification, status and Comm-B classes
    this is the per-format "modifies" theorems of C11 (none of their field sets contains a position
    field); here the two most frequent ones in the property's words -/
theorem other_frames_preserve_position (env : Env) (cfg : DecodeCfg) (now : Int) (p : Plane) (m : Msg)
    (hdf : getDownlinkFormat m = some 17) (htc : (getMessageType m).1 = 19 ∨ (1 ≤ (getMessageType m).1 ∧ (getMessageType m).1 ≤ 4)) :
    let q := applyFrame env cfg now p (.ext (Ext.fromMessage env m)) m 17
    (q.lat, q.lon, q.distance, q.positionTimestamp, q.cprLat0, q.cprLat1, q.cprLon0, q.cprLon1, q.cprTime0, q.cprTime1)
      = (p.lat, p.lon, p.distance, p.positionTimestamp, p.cprLat0, p.cprLat1, p.cprLon0, p.cprLon1, p.cprTime0, p.cprTime1) := by
  rcases htc with h19 | h14
  -- the erasers are unfolded before `rfl`, see `Proofs/Formats.lean`
  · exact of_erase (f := posFields) (C11.velocity_touches env cfg now p m hdf h19) fun _ => by
      delta eraseVelocity eraseHead eraseStamp; rfl
  · exact of_erase (f := posFields) (C11.ident_touches_callsign_category env cfg now p m hdf h14) fun _ => by
      delta eraseIdent eraseHead eraseStamp; rfl

theorem commb_preserves_position (env : Env) (cfg : DecodeCfg) (now : Int) (p : Plane) (m : Msg) (df : Nat) (dl : DFRec)
    (h : df = 20 ∨ df = 21) :
    let q := applyFrame env cfg now p dl m df
    (q.lat, q.lon, q.distance, q.positionTimestamp, q.cprLat0, q.cprLat1, q.cprLon0, q.cprLon1, q.cprTime0, q.cprTime1)
      = (p.lat, p.lon, p.distance, p.positionTimestamp, p.cprLat0, p.cprLat1, p.cprLon0, p.cprLon1, p.cprTime0, p.cprTime1) :=
  of_erase (f := posFields) (C11.commb_touches env cfg now p m df dl h) fun _ => by
    delta eraseCommB eraseModeS eraseStamp; rfl

def posView (p : Plane) :=
  (p.lat, p.lon, p.distance, p.positionTimestamp, p.cprLat0, p.cprLat1, p.cprLon0, p.cprLon1,
   p.cprTime0, p.cprTime1, p.cprSurf0, p.cprSurf1)

/-- an even surface frame and an odd airborne frame (or the reverse) never pair: around take-off and
    landing the two slots may hold frames of different kinds, whose zone sizes differ by a factor 4 -/
theorem mixed_pair_rejected (p : Plane) (tc form : Nat) (h : p.cprSurf0 ≠ p.cprSurf1) : p.posDecode tc form = none :=
  if_neg fun g => h g.2.2.2.2.1

/-- after an airborne position frame, the slot it filled is marked airborne -/
theorem slot_kind (p : Plane) (tc : Nat) (c : Nat × Nat × Nat) (htc : 9 ≤ tc ∧ tc ≤ 18) :
    (if c.1 = 0 then (p.setCprSlot tc c).cprSurf0 else (p.setCprSlot tc c).cprSurf1) = false := by
  unfold Plane.setCprSlot
  by_cases h : c.1 = 0 <;> simp [h] <;> omega

/-- **Table level, both update paths.**  An accepted DF17 airborne-position frame (TC 9-18) acts on the
    position state of its row exactly as `storeCpr` acts on a row whose position state is the old
    one and whose last-contact time is the current time: the theorems above therefore speak about
    every frame the table processes, with and without -U. -/
theorem airborne_frame_is_storeCpr (env : Env) (cfg : DecodeCfg) (now : Int) (p : Plane) (m : Msg)
    (hdf : getDownlinkFormat m = some 17) (htc : 9 ≤ (getMessageType m).1 ∧ (getMessageType m).1 ≤ 18)
    (hi : (getIcao m 17).isSome = true) :
    ∃ x : Plane, x.timestamp = now ∧ posView x = posView p
      ∧ applyFrame env cfg now p (.ext (Ext.fromMessage env m)) m 17 = x.storeCpr env (getMessageType m).1 (cpr m) := by
  rw [applyFrame_ext env cfg now p m hdf, if_pos (.inr hi)]
  simp only [extArm, tcClass_airborne htc]
  exact ⟨_, by rfl, by rfl, rfl⟩

end Sq.C08
