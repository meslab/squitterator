/-
C08, arithmetic part: `cpr_location` inverts the DO-260B airborne CPR encoding.

Exact rationals: `Model/Cpr.lean` is the code's formula with `f64` replaced by `Rat`; the check
compares the two numerically on every generated pair (1e-9 degree).  The 20 m clause follows from
the two error bounds below by spherical geometry (a bin is at most 360/59/2^18 degree = 2.6 m in
latitude and 360/(NL-1)/2^18 degree of longitude); that last step involves cos/asin and is not proved here.
-/
import SqModel.Proofs.CprMath
import SqModel.Proofs.RatPrim

namespace Sq.C08Math
open Sq Sq.Spec Sq.CprMath

/-- **C08, arithmetic.**  Two airborne positions (even frame at `(lat0, lon0)`, odd frame at
    `(lat1, lon1)`), encoded as DO-260B prescribes, whose encoded latitudes lie in the same NL zone and
    which are close enough for the zone indices to be unambiguous: `cpr_location` (with `coeff = 1`)
    returns, for either anchor, exactly the latitude the anchoring frame encodes and - up to whole
    turns, and inside [-180, 180] - exactly the longitude it encodes. -/
theorem cprLocation_correct (lat0 lon0 lat1 lon1 : ℚ) (form : ℕ) (hform : form = 0 ∨ form = 1)
    (h0 : |lat0| ≤ 89) (h1 : |lat1| ≤ 89) (hlat : |lat0 - lat1| ≤ 1 / 20)
    (hzone : nlOf (encoded (dlat 0) lat0) = nlOf (encoded (dlat 1) lat1))
    (hlon : |lon0 - lon1| * (((nlOf (encoded (dlat 0) lat0) : ℤ) : ℚ) * ((nlOf (encoded (dlat 0) lat0) : ℤ) - 1)) / 360
              + (2 * ((nlOf (encoded (dlat 0) lat0) : ℤ) : ℚ) - 1) / 262144 < 1 / 2) :
    ∃ lo : ℚ, ∃ k : ℤ,
      cprLocation (encLat 0 lat0) (encLat 1 lat1) (encLon 0 lat0 lon0) (encLon 1 lat1 lon1) form 1
        = some (encoded (dlat form) (if form = 1 then lat1 else lat0), lo)
      ∧ lo = encoded (dlon (nlOf (encoded (dlat 0) lat0)) form) (if form = 1 then lon1 else lon0) + 360 * (k : ℚ)
      ∧ -180 ≤ lo ∧ lo ≤ 180 := by
  have hr := nlOf_range (encoded (dlat 0) lat0)
  set nl := nlOf (encoded (dlat 0) lat0) with hnl
  obtain ⟨k, hk, hlo1, hlo2⟩ := lon_decode nl hr lon0 lon1 form hform hlon
  -- what is left is that `cprLocation` computes the pair of which `lat_decode` and `lon_decode` speak
  refine ⟨_, k, ?_, hk, hlo1, hlo2⟩
  have hX0 : encLon 0 lat0 lon0 = cprEnc (dlon nl 0) lon0 := rfl
  have hX1 : encLon 1 lat1 lon1 = cprEnc (dlon nl 1) lon1 := by unfold encLon; rw [← hzone]
  -- the code's `m as i32` changes nothing: the zone-index difference of two 17-bit fields is small
  have hfit := ratToI32_int _ (mm_fits _ _ nl (cprEnc_lt (dlon nl 0) lon0) (cprEnc_lt (dlon nl 1) lon1)
    ⟨Int.le_trans (by decide) hr.1, hr.2⟩)
  unfold cprLocation
  -- the candidate latitudes, their common zone, `coeff = 1`; then the arm of the anchoring frame
  simp only [lat_decode lat0 lat1 h0 h1 hlat, ← hzone, ← hnl, if_true, Int.tdiv_one, hX0, hX1]
  rcases hform with rfl | rfl
  · simp only [show ¬ ((0 : ℕ) = 1) by decide, if_false, if_true, Nat.cast_zero, sub_zero, hfit]
  · simp only [if_false, if_true, Nat.cast_one, hfit, show ¬ ((1 : ℕ) = 0) by decide]

/-- **C08, accuracy in degrees.**  Under the hypotheses of `cprLocation_correct` the decoded position
    is within half a CPR bin of the true position of the anchoring (newer) frame: at most
    `Dlat/2^18` (2.3e-5 degree, 2.6 m) in latitude and `Dlon/2^18` in longitude, the longitude taken
    modulo 360 and reported inside [-180, 180]. -/
theorem decoded_within_half_bin (lat0 lon0 lat1 lon1 : ℚ) (form : ℕ) (hform : form = 0 ∨ form = 1)
    (h0 : |lat0| ≤ 89) (h1 : |lat1| ≤ 89) (hlat : |lat0 - lat1| ≤ 1 / 20)
    (hzone : nlOf (encoded (dlat 0) lat0) = nlOf (encoded (dlat 1) lat1))
    (hlon : |lon0 - lon1| * (((nlOf (encoded (dlat 0) lat0) : ℤ) : ℚ) * ((nlOf (encoded (dlat 0) lat0) : ℤ) - 1)) / 360
              + (2 * ((nlOf (encoded (dlat 0) lat0) : ℤ) : ℚ) - 1) / 262144 < 1 / 2) :
    ∃ la lo : ℚ, ∃ k : ℤ,
      cprLocation (encLat 0 lat0) (encLat 1 lat1) (encLon 0 lat0 lon0) (encLon 1 lat1 lon1) form 1 = some (la, lo)
      ∧ |la - (if form = 1 then lat1 else lat0)| ≤ dlat form / 262144
      ∧ |lo - ((if form = 1 then lon1 else lon0) + 360 * (k : ℚ))| ≤ dlon (nlOf (encoded (dlat 0) lat0)) form / 262144
      ∧ -180 ≤ lo ∧ lo ≤ 180 := by
  obtain ⟨lo, k, hc, hk, hl1, hl2⟩ := cprLocation_correct lat0 lon0 lat1 lon1 form hform h0 h1 hlat hzone hlon
  refine ⟨_, lo, k, hc, ?_, ?_, hl1, hl2⟩
  · apply encoded_close
    rcases hform with rfl | rfl
    · rw [dlat0]; norm_num
    · rw [dlat1]; norm_num
  · rw [hk, add_sub_add_right_eq_sub]
    exact encoded_close _ _ (dlon_pos _ _)

/-- non-vacuity: the zone hypothesis at a concrete pair of latitudes, the even encoding of 52.2572 N 3.9194 E, and
    the decoder on the worked example of "The 1090 MHz Riddle" (fields 93000/51372 and 74158/50194 are its
    even/odd frames) -/
example : nlOf (encoded (dlat 0) (522572 / 10000)) = nlOf (encoded (dlat 1) (522578 / 10000)) := by decide +kernel
example : nlOf (encoded (dlat 0) (522572 / 10000)) = 36 := by decide +kernel
example : (encLat 0 (522572 / 10000), encLon 0 (522572 / 10000) (39194 / 10000)) = (93000, 51372) := by decide +kernel
example : (cprLocation 93000 74158 51372 50194 0 1).isSome = true := by decide +kernel

end Sq.C08Math
