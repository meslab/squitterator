/-
C18 — TCP feed interruptions never stop decoding or lose the table.

With a TCP source, a refused connection, a connection closed by the peer or reset in the middle of
a line never terminates the decoder: it keeps retrying (pausing about 5 s after a failed attempt)
until a connection succeeds and then resumes decoding.  Aircraft learned before the interruption
are still in the table afterwards (subject to normal expiry), and a partial last line of the
dropped connection is treated like any other malformed line.

PARTIAL: the theorems are about the loop's logic over an environment trace.  That `TcpStream::connect`,
`BufReader` and `sleep` behave as the trace says (a refused connect returns `Err` promptly, a reset
surfaces as a read error, EOF ends the iterator) is validated by a scripted loopback peer, not proved.
-/
import SqModel.Model.Tcp
import SqModel.Proofs.Reader
import SqModel.Proofs.Expiry

namespace Sq.C18

/-- the retry loop has no way out: it is a bare `loop` without `break`, `return` or `?`, and the line
    loop inside `read_lines` has no `break` or `return` either (its one `?`, on the write to the `-D` log file, is not
    modelled: it ends the connection, not the retry loop).  The statement is about the five findings the extractor
    writes to `Generated/TcpShape.lean` from the source on every run; `tcpRun` itself, being a function on
    traces, could not stop early whatever they said -/
theorem loop_never_exits :
    Gen.tcpIsLoop = true ∧ Gen.tcpHasBreak = false ∧ Gen.tcpHasReturn = false ∧ Gen.tcpHasQuestionMark = false
    ∧ Gen.readLinesEarlyExits = 0 := by decide

/-- the pause after a refused connection is 5 seconds -/
theorem pause_is_5s : Gen.tcpSleepAfterRefusal = 5 := by decide

theorem tcpRun_append (env : Env) (cfg : DecodeCfg) (now : Int) (t : Table) (es fs : List ConnEvent) :
    tcpRun env cfg now t (es ++ fs)
      = ((tcpRun env cfg now (tcpRun env cfg now t es).1 fs).1,
         (tcpRun env cfg now t es).2 ++ (tcpRun env cfg now (tcpRun env cfg now t es).1 fs).2) := by
  induction es generalizing t with
  | nil => rfl
  | cons e es ih => simp only [List.cons_append, tcpRun, ih, List.append_assoc]

/-- a refused connection changes nothing in the table and costs exactly one pause -/
theorem refuse_keeps_table (env : Env) (cfg : DecodeCfg) (now : Int) (t : Table) :
    tcpStep env cfg now t .refuse = (t, [.sleep 5]) := rfl

/-- any number of refusals: the table is untouched, one pause per refusal, no reads -/
theorem refusals (env : Env) (cfg : DecodeCfg) (now : Int) (t : Table) (k : Nat) :
    tcpRun env cfg now t (List.replicate k .refuse) = (t, List.replicate k (.sleep 5)) := by
  induction k with
  | zero => rfl
  | succ k ih => rw [List.replicate_succ, tcpRun, refuse_keeps_table, ih]; rfl

/-- resuming: after any sequence of faults, a connection that succeeds is decoded by the ordinary
    line loop on the table as the faults left it -/
theorem resumes (env : Env) (cfg : DecodeCfg) (now : Int) (t : Table) (faults : List ConnEvent)
    (bytes : List Nat) (c : CloseKind) :
    (tcpRun env cfg now t (faults ++ [.accept bytes c])).1
      = (runSegment env cfg now (tcpRun env cfg now t faults).1 (linesOf bytes c)).table := by
  rw [tcpRun_append]
  rfl

/-- a connection that delivers no accepted line (closed at once, junk bytes, a partial line) leaves
    the table exactly as it was -/
theorem useless_connection_keeps_table (env : Env) (cfg : DecodeCfg) (now : Int) (t : Table)
    (bytes : List Nat) (c : CloseKind) (h : ∀ l ∈ linesOf bytes c, isAccepted cfg l = false) :
    (tcpStep env cfg now t (.accept bytes c)).1 = t := by
  rw [tcpStep, runSegment_filter, filter_isAccepted_eq_nil h]
  rfl

/-- aircraft learned before an interruption are still there afterwards unless expired: a row heard
    fewer than delete_after seconds ago is still so after all the lines of a later connection.  The clock is the
    one value `now` for the whole connection; what is concluded of the row is what was assumed of it, so
    connections at later times chain as long as the age stays below delete_after -/
theorem keeps_rows_across_connection (env : Env) (cfg : DecodeCfg) (now : Int) (t : Table)
    (lines : List (List Nat)) (a : Nat) (p : Plane) (hnd : t.keys.Nodup) (hp : Table.lookup t a = some p)
    (hage : numSeconds now p.timestamp < cfg.deleteAfter) (hclock : p.timestamp ≤ now) :
    ∃ q, Table.lookup (runSegment env cfg now t lines).table a = some q
      ∧ numSeconds now q.timestamp < cfg.deleteAfter ∧ q.timestamp ≤ now :=
  heard_foldl env cfg now lines { table := t } a hnd ⟨p, hp, hage, hclock⟩

/-- a partial last line (no newline before the peer closed) is handed to the same line loop as any
    other line, so C13 applies to it (after a reset the model hands on the complete lines only: `linesOf`, `Model/Tcp.lean`) -/
theorem partial_line_is_a_line (a b : List Nat) (ha : 10 ∉ a) (hb : 10 ∉ b) (hne : b ≠ []) :
    linesOf (a ++ 10 :: b) .eof = [a, b] := by
  simp only [linesOf, splitLines_cons_line a b ha, splitLines_last b hb hne]

end Sq.C18
