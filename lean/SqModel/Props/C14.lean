/-
C14 — Printed rows render the table faithfully under their column headers.

Each refresh prints the header, a separator and one line per aircraft in which that aircraft's
current parameters appear in the header's column order, each within its column's width (numbers
right-aligned, text left-aligned) and blank when unknown; whenever every value fits its column the
line, the header and the separator have identical display width.  The optional column groups are
present in header and rows exactly when the corresponding -i letter is given.

The header cell list and the -i letters are regenerated from `header.rs` on every run; the row's
cell list is the hand-written model of `simple_display.rs` (tied by the correspondence check on
the real `Planes::print` output).  Float cells are rendered by exact decimal rounding in the
model; `std::fmt` itself is not modelled.
-/
import SqModel.Model.Render
import SqModel.Proofs.Basic

namespace Sq.C14

/-- numbers are right-aligned, text left-aligned: the alignment of every cell is determined by its column -/
def alignOf (col : String) : Align :=
  if col ∈ ["RG", "SQWK", "W", "CALLSIGN", "VX", "S", "PTH"] then .left else .right

/-- the header is the fixed columns with each optional group inserted exactly when its flag is set,
    always in the same relative order -/
theorem header_groups (f : DisplayFlags) :
    (headerCells f).map (·.1) =
      ["ICAO", "RG", "SQWK", "W", "CALLSIGN", "LATITUDE", "LONGITUDE", "DIST", "ALT B"]
      ++ (if f.altitude then ["ALT G", "ALT S", "BARO"] else [])
      ++ ["VRATE", "TRK", "HDG", "GSP"]
      ++ (if f.speed then ["TAS", "IAS", "MACH"] else [])
      ++ (if f.angles then ["RLL", "TAR"] else [])
      ++ (if f.weather then ["TEMP", "WND", "WDR", "HUM", "PRES", "TB"] else [])
      ++ (if f.extra then ["VX", "DF", "TC", "V", "S", "PTH"] else []) := by
  -- each group of `Gen.headerGroups` under the `if` of its guard; `map` goes through `++` and `if`
  simp only [headerCells, filter_flatMap, Gen.headerGroups, List.flatMap_cons, List.flatMap_nil,
    DisplayFlags.has, beq_iff_eq, String.reduceEq, ↓reduceIte,
    List.map_append, apply_ite (List.map _), List.map_cons, List.map_nil, List.append_nil, List.append_assoc]

/-- the -i letters: w a s A e (and Q for quiet) -/
theorem flag_letters (cs : List Char) :
    DisplayFlags.ofChars cs = { weather := cs.contains 'w', angles := cs.contains 'a', speed := cs.contains 's',
                                altitude := cs.contains 'A', extra := cs.contains 'e', quiet := cs.contains 'Q' } := by
  simp only [DisplayFlags.ofChars, flagLetter, Gen.flagLetters, List.find?_cons, String.reduceBEq, Option.map_some,
    Option.getD_some]

-- a literal is `String.ofList` of its characters: the length is read off without decoding UTF-8
theorem sp_len : " ".length = 1 := String.length_ofList
theorem lc_len : "LC".length = 2 := String.length_ofList
theorem dd_len : "--".length = 2 := String.length_ofList
theorem empty_len : "".length = 0 := String.length_ofList

theorem mark_length_opt (o : Option Char) : ((o.map fun c => c.toString).getD " ").length = 1 := by
  cases o <;> simp [Char.toString, sp_len]
theorem mark_length_ite (b : Bool) (c : Char) : (if b then c.toString else " ").length = 1 := by
  cases b <;> simp [Char.toString, sp_len]

/-- Column, width, alignment and the number of characters that follow, for every cell of a row:
    cell i stands under header i with the header's width, the alignment its column name gives it and
    one character (a blank or a source mark) behind it; the last cell is LC. -/
theorem layout (f : DisplayFlags) (now : Int) (p : Plane) :
    (rowCells f now p).map (fun c => (c.column, c.width, c.align, c.sep.length)) =
      (headerCells f).map (fun h => (h.1, h.2, alignOf h.1, 1)) ++ [("LC", 2, alignOf "LC", 0)] := by
  -- header and row are the same seven groups, each optional one under the `if` of its flag: `map` goes
  -- through `++` and `if`, and what is left is `alignOf` on each column name
  simp only [headerCells, filter_flatMap, Gen.headerGroups, List.flatMap_cons, List.flatMap_nil,
    DisplayFlags.has, beq_iff_eq, String.reduceEq, ↓reduceIte,
    rowCells, natCell, intCell, mark_length_opt, mark_length_ite, sp_len, empty_len,
    List.map_append, apply_ite (List.map _), List.map_cons, List.map_nil, List.append_nil, List.append_assoc,
    alignOf, List.mem_cons, List.not_mem_nil, or_self, or_false, or_true]

theorem layout_map {γ : Type} (π : String × Nat × Align × Nat → γ) (f : DisplayFlags) (now : Int) (p : Plane) :
    (rowCells f now p).map (fun c => π (c.column, c.width, c.align, c.sep.length)) =
      (headerCells f).map (fun h => π (h.1, h.2, alignOf h.1, 1)) ++ [π ("LC", 2, alignOf "LC", 0)] := by
  have h := congrArg (List.map π) (layout f now p)
  rwa [List.map_map, List.map_append, List.map_map] at h

/-- cell i of a row stands under header i, for all 32 group sets; the last cell is LC -/
theorem column_order (f : DisplayFlags) (now : Int) (p : Plane) :
    (rowCells f now p).map (·.column) = (headerCells f).map (·.1) ++ ["LC"] :=
  layout_map (·.1) f now p

theorem alignment (f : DisplayFlags) (now : Int) (p : Plane) :
    (rowCells f now p).map (·.align) = ((headerCells f).map (·.1) ++ ["LC"]).map alignOf :=
  (layout_map (·.2.2.1) f now p).trans <| by
    simp only [List.map_append, List.map_map, List.map_cons, List.map_nil, Function.comp_def]

theorem spaces_length (n : Nat) : (spaces n).length = n := by simp [spaces]
theorem dashes_length (n : Nat) : (dashes n).length = n := by simp [dashes]
theorem padLeft_length (w : Nat) (s : String) : (padLeft w s).length = max w s.length := by
  rw [padLeft, String.length_append, spaces_length, Nat.sub_add_eq_max]
theorem padRight_length (w : Nat) (s : String) : (padRight w s).length = max w s.length := by
  rw [padRight, String.length_append, spaces_length, Nat.add_comm, Nat.sub_add_eq_max]

theorem render_length (c : Cell) (h : c.text.length ≤ c.width) : c.render.length = c.width + c.sep.length := by
  unfold Cell.render
  cases c.align <;> simp only [String.length_append, padLeft_length, padRight_length, Nat.max_eq_left h]

theorem line_length {α : Type} (g : α → String) (l : List α) (init : String) :
    (l.foldl (fun acc c => acc ++ g c) init).length = init.length + (l.map fun c => (g c).length).sum := by
  induction l generalizing init with
  | nil => exact (Nat.add_zero _).symm
  | cons x xs ih => simp only [List.foldl_cons, ih, String.length_append, List.map_cons, List.sum_cons, Nat.add_assoc]

theorem separator_length (f : DisplayFlags) :
    (separatorLine f).length = ((headerCells f).map fun c => c.2 + 1).sum + 2 := by
  rw [separatorLine, String.length_append, line_length, dd_len, empty_len, Nat.zero_add]
  simp only [String.length_append, dashes_length, sp_len]

theorem header_names_fit : ∀ g ∈ Gen.headerGroups, ∀ c ∈ g.2, c.1.length ≤ c.2 := by decide +kernel

theorem header_eq_separator (f : DisplayFlags) : (headerLine f).length = (separatorLine f).length := by
  have fit : ∀ c ∈ headerCells f, (padLeft c.2 c.1 ++ " ").length = c.2 + 1 := by
    intro c hc
    obtain ⟨g, hg, hcg⟩ := List.mem_flatMap.mp hc
    rw [String.length_append, padLeft_length, sp_len,
      Nat.max_eq_left (header_names_fit g (List.mem_filter.mp hg).1 c hcg)]
  rw [separator_length, headerLine, String.length_append, line_length, List.map_congr_left fit,
    lc_len, empty_len, Nat.zero_add]

/-- whenever every value fits its column, the row, the header and the separator have the same width -/
theorem width_eq (f : DisplayFlags) (now : Int) (p : Plane)
    (hfit : ∀ c ∈ rowCells f now p, c.text.length ≤ c.width) :
    (rowLine f now p).length = (separatorLine f).length ∧ (headerLine f).length = (separatorLine f).length := by
  refine ⟨?_, header_eq_separator f⟩
  unfold rowLine
  rw [line_length Cell.render, separator_length, empty_len, Nat.zero_add,
    List.map_congr_left fun c hc => render_length c (hfit c hc),
    layout_map (fun t => t.2.1 + t.2.2.2), List.sum_append]
  rfl

/-- unknown parameters are blank: a numeric cell of `none` has empty content (padded to the width) -/
theorem blank_when_unknown (col : String) (w : Nat) (sep : String) :
    (natCell col w none sep).text = "" ∧ (intCell col w none sep).text = "" := ⟨rfl, rfl⟩

end Sq.C14
