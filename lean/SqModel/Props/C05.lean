/-
C05 — Barometric altitude equals the Mode S altitude-code decoding.

The altitude that a DF4/DF20 reply (13-bit altitude code with M=0) or a DF17 airborne-position
squitter TC 9-18 (12-bit code) gives an aircraft is: when Q=1, 25*N-1000 ft if that is >= 0;
when the code is all zeros, or the value would be negative, no altitude; when Q=0, the Gillham
decoding.  It is computed from the bits of the altitude field of that frame and from nothing
else, and every such frame for an aircraft already in the table has this effect.

Status on this tree: proved for Q = 1 and for the all-zero code of DF4/DF20
(`altitude_eq_spec_DF4_20_partial`, `altitude_eq_spec_TC9_18_partial`).  The Q = 0 (Gillham)
branch is a genuine defect recorded in known_findings.json: `gillham_branch_wrong` is its
machine-checked witness.  The full-strength statements are `FullDF4_20` / `FullTC9_18` below.
-/
import SqModel.Proofs.Altitude
import SqModel.Proofs.Formats

namespace Sq.C05
open Spec

/-- the property at full strength for DF4/DF20 (not a theorem on this tree) -/
def FullDF4_20 : Prop := ∀ (m : Msg) (df : Nat), AllNib m → 8 ≤ m.length → df ≠ 17 →
  mBit (field m 20 32) = 0 → altitude m df = altSpec13 (field m 20 32)

/-- the property at full strength for TC 9-18 (not a theorem on this tree) -/
def FullTC9_18 : Prop := ∀ (m : Msg), AllNib m → 13 ≤ m.length →
  altitude m 17 = altSpec12 (field m 41 52)

/-- DF4/DF20, M = 0, Q = 1 or the all-zero code: the altitude is 25·N − 1000 ft, none if negative or zero code,
    whatever the other bits of the frame -/
theorem altitude_eq_spec_DF4_20_partial (m : Msg) (df : Nat) (h : AllNib m) (hl : 8 ≤ m.length)
    (hdf : df ≠ 17) (hM : mBit (field m 20 32) = 0)
    (hQ : (acBits12 (ac12of13 (field m 20 32))).q = 1 ∨ field m 20 32 = 0) :
    altitude m df = altSpec13 (field m 20 32) := by
  rcases hQ with hQ | h0
  -- with M = 0 and Q = 1 the working code is 4 · (the 12-bit code) + 1, and `altitude_value` takes its 25-ft arm on that
  · have hc : field m 20 32 < 2 ^ 13 := field_lt m 20 32
    simp only [altitude, hdf, if_false, maCode_eq_maOfField m h hl, maOfField_q1 _ hM hQ]
    exact altitudeValue_q1 m _ (by unfold ac12of13; omega) hQ
  · rw [altitude_eq_altOfMaCode m df hdf, maCode_eq_maOfField m h hl, h0]
    decide

/-- TC 9-18, Q = 1: the altitude is 25·N − 1000 ft of the 12-bit field, none if negative -/
theorem altitude_eq_spec_TC9_18_partial (m : Msg) (h : AllNib m) (hl : 13 ≤ m.length)
    (hQ : (acBits12 (field m 41 52)).q = 1) :
    altitude m 17 = altSpec12 (field m 41 52) := by
  simp only [altitude, if_true, meCode_eq m h hl, meOfField, show fb (field m 41 52) 4 = 1 from hQ]
  exact altitudeValue_q1 m _ (field_lt m 41 52) hQ

/-- computed from the altitude field and nothing else (DF4/DF20, every code incl. Gillham and metric) -/
theorem altitude_depends_only_on_field_DF4_20 (m₁ m₂ : Msg) (df₁ df₂ : Nat) (h₁ : AllNib m₁) (h₂ : AllNib m₂)
    (l₁ : 8 ≤ m₁.length) (l₂ : 8 ≤ m₂.length) (d₁ : df₁ ≠ 17) (d₂ : df₂ ≠ 17)
    (hf : field m₁ 20 32 = field m₂ 20 32) : altitude m₁ df₁ = altitude m₂ df₂ := by
  rw [altitude_eq_altOfMaCode m₁ df₁ d₁, altitude_eq_altOfMaCode m₂ df₂ d₂,
    maCode_eq_maOfField m₁ h₁ l₁, maCode_eq_maOfField m₂ h₂ l₂, hf]

/-- the defect: a legal Gillham code (200 ft, the one pinned by `test_alt_e`) yields no altitude;
    hence `FullDF4_20` is false on this tree -/
theorem gillham_branch_wrong : ¬ FullDF4_20 := fun hfull =>
  -- a DF4 frame whose AC field is 0x100A: M = 0, Q = 0, 200 ft
  absurd (hfull [2, 0, 0, 0, 1, 0, 0, 10] 4 (by unfold AllNib; decide) (by decide) (by decide) (by decide +kernel))
    (by decide +kernel)

/-- an existing row hit by a DF4 / DF20 frame: the update path shows the decoded altitude, the
    default path (DF4 without -U) shows it or, when the frame carries none, keeps the old one -/
theorem row_altitude_after_DF4_20 (env : Env) (cfg : DecodeCfg) (now : Int) (p : Plane) (m : Msg)
    (df : Nat) (dl : DFRec) (hdf : getDownlinkFormat m = some df) (h : df = 4 ∨ df = 20)
    (hicao : (getIcao m df).isSome) (hdl : DFRec.fromMessage env m = some dl) :
    (applyFrame env cfg now p dl m df).altitude = altitude m df
    ∨ (altitude m df = none ∧ (applyFrame env cfg now p dl m df).altitude = p.altitude) := by
  unfold applyFrame
  split
  · obtain rfl : df = 4 := by omega
    obtain rfl := Option.some.inj ((fromMessage_srt env m 4 hdf (by decide)).symm.trans hdl)
    rw [srt_fromMessage m 4 hdf]
    simp only [Plane.updateFromDownlink, Plane.amendSrt, hicao, if_true]
    cases altitude m 4 <;> simp
  · left
    rw [Plane.update_eq, Plane.commBStep_proj Plane.altitude fun _ => rfl, Plane.extStep_ne (by omega)]
    exact if_pos h

/-- an existing row hit by an airborne position squitter (TC 9-18) shows that frame's altitude on
    both paths (or none, if the frame carries none) -/
theorem row_altitude_after_TC9_18 (env : Env) (cfg : DecodeCfg) (now : Int) (p : Plane) (m : Msg)
    (hdf : getDownlinkFormat m = some 17) (htc : 9 ≤ (getMessageType m).1 ∧ (getMessageType m).1 ≤ 18)
    (hicao : (getIcao m 17).isSome) :
    (applyFrame env cfg now p (.ext (Ext.fromMessage env m)) m 17).altitude = altitude m 17 := by
  rw [applyFrame_ext env cfg now p m hdf, if_pos (.inr hicao), extArm, tcClass_airborne htc]
  exact storeCpr_altitude ..

-- non-vacuity: frames meeting the hypotheses of the partial theorems
example : altitude [2, 0, 0, 0, 1, 8, 3, 8] 4 = some 38000 := by decide +kernel     -- AC13 with Q = 1
example : (acBits12 (ac12of13 (field [2, 0, 0, 0, 1, 8, 3, 8] 20 32))).q = 1
    ∧ mBit (field [2, 0, 0, 0, 1, 8, 3, 8] 20 32) = 0 := by decide +kernel

end Sq.C05
